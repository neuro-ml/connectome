/-
  CM.Proofs.ChainRev — `Context.reverse` of a chain of any number of layers, given as the list of its layers (`chainCtx`): layer by layer,
  the last layer first; in closed form when no layer merely hands a name on (`PlainChain`); which node feeds a backward input, and what
  the backward inputs therefore compute in the decorated graph (`Decorated.adjacent`, `Decorated.last_input`).
-/
import CM.Proofs.LoopbackDen
namespace CM

/-- a layer as the chain's context sees it: backward inputs, backward outputs, the names it inherits backwards -/
structure CtxLayer where
  bi : List BNode
  bo : List BNode
  inh : NameSet

/-- the context of a chain of layers of any length - the LAST layer first: `ChainContext(ChainContext(L1, L2), L3)` is `chainCtx [L3, L2, L1]`.
`connectBags l r` has the context `.chain l.ctx (r.ctx.shift l.next)` by definition of `connectRaw` (`mkBag_ctx`), and `functionToBag` gives
the bag of `f` the context `.bag [] [] inhf`: hence the shape `.chain (chainCtx ls) (.bag [] [] inhf)` of `s.ctx` in the chain theorems. -/
def chainCtx : List CtxLayer → BCtx
  | [] => .ident
  | [l] => .bag l.bi l.bo l.inh
  | l :: r :: rest => .chain (chainCtx (r :: rest)) (.bag l.bi l.bo l.inh)

/-- all the stitches of the reversed chain: the last layer is stitched to what came in, every other layer to the backward outputs of the layer after it -/
def chainStitches : List CtxLayer → List BNode → List BEdge
  | [], _ => []
  | l :: rest, outs => stitchOf l.bi outs ++ chainStitches rest l.bo

/-- what the reversed chain returns: the backward outputs of the FIRST layer -/
def chainOuts : List CtxLayer → List BNode → List BNode
  | [], outs => outs
  | l :: rest, _ => chainOuts rest l.bo

/-- no layer hands a name on unchanged (every name a layer inherits backwards among those that reach it is one it inverts itself), and
names are pairwise different wherever `Context.reverse` checks them -/
def PlainChain : List CtxLayer → List BNode → Prop
  | [], _ => True
  | l :: rest, outs => (names outs).Nodup ∧ (names l.bo).Nodup ∧
      (∀ m ∈ outs, l.inh.mem m.name = true → (names l.bo).contains m.name = true) ∧ PlainChain rest l.bo

section
variable {l : CtxLayer} {rest : List CtxLayer} {outs o1 o2 : List BNode} {next n1 n2 : Nat} {e1 e2 : List BEdge} {p1 p2 : List BNode}
  {n o : BNode}

/-- `reverse_chain_ok` for `chainCtx (l :: rest)`; also for `rest = []`, where `chainCtx [l]` is the layer alone (`.ident` changes nothing) -/
theorem chainCtx_reverse_ok {es : List BEdge} {pp : List BNode} :
    (chainCtx (l :: rest)).reverse outs next = .ok (o2, es, pp, n2) ↔
      ∃ o1 e1 p1 n1 e2 p2, (BCtx.bag l.bi l.bo l.inh).reverse outs next = .ok (o1, e1, p1, n1) ∧
        (chainCtx rest).reverse o1 n1 = .ok (o2, e2, p2, n2) ∧ e1 ++ e2 = es ∧ p1 ++ p2 = pp := by
  cases rest with
  | cons => exact reverse_chain_ok
  | nil =>
    refine ⟨fun h => ⟨_, _, _, _, _, _, h, rfl, List.append_nil _, List.append_nil _⟩, ?_⟩
    rintro ⟨_, _, _, _, _, _, h1, h2, rfl, rfl⟩
    cases h2
    simpa [chainCtx] using h1

theorem feeds_head (hn : n ∈ l.bi) (hb : byName outs n.name = some o) : Feeds (chainCtx (l :: rest)) outs next n o := by
  cases rest with
  | nil => exact .bag hn hb
  | cons => exact .later (.bag hn hb)

theorem feeds_tail (h1 : (BCtx.bag l.bi l.bo l.inh).reverse outs next = .ok (o1, e1, p1, n1)) (hf : Feeds (chainCtx rest) o1 n1 n o) :
    Feeds (chainCtx (l :: rest)) outs next n o := by
  cases rest with
  | nil => cases hf
  | cons => exact .earlier h1 hf

end

theorem plain_bag_reverse (l : CtxLayer) (outs : List BNode) (next : Nat) (hnd : (names outs).Nodup) (hbo : (names l.bo).Nodup)
    (hp : ∀ m ∈ outs, l.inh.mem m.name = true → (names l.bo).contains m.name = true) :
    (BCtx.bag l.bi l.bo l.inh).reverse outs next = .ok (l.bo, stitchOf l.bi outs, [], next) := by
  have hf : (outs.filter fun m => l.inh.mem m.name && !(names l.bo).contains m.name) = [] :=
    List.filter_eq_nil_iff.2 fun m hm => by simpa using hp m hm
  refine reverse_bag_ok.2 ⟨hnd, hbo, ?_⟩
  rw [passClones, hf]
  exact ⟨List.append_nil _, List.append_nil _, rfl, rfl⟩

/-- **`Context.reverse` of a chain of any length, in closed form.** -/
theorem chain_reverse_closed : ∀ (ls : List CtxLayer) (outs : List BNode) (next : Nat), PlainChain ls outs →
    (chainCtx ls).reverse outs next = .ok (chainOuts ls outs, chainStitches ls outs, [], next)
  | [], _, _, _ => rfl
  | l :: rest, outs, next, ⟨hnd, hbo, hi, hrest⟩ =>
    chainCtx_reverse_ok.2 ⟨_, _, _, _, _, _, plain_bag_reverse l outs next hnd hbo hi, chain_reverse_closed rest l.bo next hrest, rfl, rfl⟩

/-- a layer returns its own backward outputs first, so no clone of an inherited name can hide them -/
theorem feeds_adjacent (pre : List CtxLayer) {later l : CtxLayer} {post : List CtxLayer} {outs : List BNode} {next : Nat}
    {res : List BNode × List BEdge × List BNode × Nat} {n o : BNode}
    (h : (chainCtx (pre ++ later :: l :: post)).reverse outs next = .ok res) (hn : n ∈ l.bi) (ho : o ∈ later.bo) (hname : o.name = n.name) :
    Feeds (chainCtx (pre ++ later :: l :: post)) outs next n o := by
  induction pre generalizing outs next res with
  | nil =>
    obtain ⟨_, _, _, _, _, _, h1, _⟩ := chainCtx_reverse_ok.1 h
    obtain ⟨_, hbo, rfl, _⟩ := reverse_bag_ok.1 h1
    refine feeds_tail h1 (feeds_head hn ?_)
    rw [← hname, byName, List.find?_append, ← byName, byName_of_mem (names_inj_of_nodup hbo) ho]
    rfl
  | cons p pre ih =>
    obtain ⟨_, _, _, _, _, _, h1, h2, _⟩ := chainCtx_reverse_ok.1 h
    exact feeds_tail h1 (ih h2)

/-- **Any number of layers: every layer's backward input is fed by the backward output of that name of the layer right after it.** -/
theorem chain_feeds : ∀ (pre : List CtxLayer) (later l : CtxLayer) (post : List CtxLayer) (outs : List BNode) (next : Nat) (n o : BNode),
    PlainChain (pre ++ later :: l :: post) outs → n ∈ l.bi → o ∈ later.bo → o.name = n.name →
    Feeds (chainCtx (pre ++ later :: l :: post)) outs next n o :=
  fun pre _ _ _ _ next _ _ hp => feeds_adjacent pre (chain_reverse_closed _ _ next hp)

theorem fn_clone_feeds {l : CtxLayer} {rest : List CtxLayer} {inhf : NameSet} {outs : List BNode} {next : Nat} {n o : BNode}
    (hnd : (names outs).Nodup) (hn : n ∈ l.bi) (ho : o ∈ outs) (hname : o.name = n.name) (hinh : inhf.mem n.name = true) :
    ∃ c, c.name = n.name ∧ next ≤ c.id ∧ Feeds (.chain (chainCtx (l :: rest)) (.bag [] [] inhf)) outs next n c ∧
      Passes (.chain (chainCtx (l :: rest)) (.bag [] [] inhf)) outs next o c := by
  obtain ⟨c, hcn, hpass⟩ := bag_pass_exists [] [] inhf outs next o ho (hname ▸ hinh) rfl
  cases hpass with
  | bag hc hedge =>
    -- the clones have pairwise different names: those of a sublist of `outs`
    have hnd_cl : (names (passClones inhf [] outs next).1).Nodup := by
      rw [passClones_names]
      exact hnd.sublist List.filter_sublist
    have hby : byName (passClones inhf [] outs next).1 n.name = some c := by
      rw [← hname, ← hcn]; exact byName_of_mem (names_inj_of_nodup hnd_cl) hc
    exact ⟨c, hcn.trans hname, (cloneEdges_id hc).1,
      .earlier (fn_ctx_reverse inhf outs next hnd) (feeds_head hn hby), .later (.bag hc hedge)⟩

namespace Decorated
variable {s r : Bag} {es : List BEdge} (hd : Decorated s r es)
include hd

/-- In the decorated graph the backward input `n` of the layer `l` computes what the backward output `o` of that name of `later` computes.
The list is last layer first: `later`, standing before `l` in it, is the layer right after `l` in the chain. -/
theorem adjacent {pre : List CtxLayer} {later l : CtxLayer} {post : List CtxLayer} {inhf : NameSet} {n o : BNode}
    (hctx : s.ctx = .chain (chainCtx (pre ++ later :: l :: post)) (.bag [] [] inhf)) (hn : n ∈ l.bi) (ho : o ∈ later.bo)
    (hname : o.name = n.name) (hnr : n ∉ r.inputs) (t : BTerm) : BDen r n t ↔ BDen r o t := by
  obtain ⟨_, _, hrev⟩ := hctx ▸ hd.rev
  obtain ⟨_, _, _, _, _, _, h1, h2, _⟩ := reverse_chain_ok.1 hrev
  exact hd.feeds (hctx ▸ .earlier h1 (feeds_adjacent pre h2 hn ho hname)) hnr t

/-- the last layer's backward input `n` is fed by the clone `c` of `f`'s output `o` of its name, which the function's context hands on: by
`through`, `n` computes what `f` returned under its name -/
theorem last_input {l : CtxLayer} {rest : List CtxLayer} {inhf : NameSet} {n o : BNode}
    (hctx : s.ctx = .chain (chainCtx (l :: rest)) (.bag [] [] inhf)) (hn : n ∈ l.bi) (ho : o ∈ s.outputs)
    (hname : o.name = n.name) (hinh : inhf.mem n.name = true) :
    ∃ c, c.name = n.name ∧ s.next ≤ c.id ∧ Feeds s.ctx s.outputs s.next n c ∧ Passes s.ctx s.outputs s.next o c := by
  obtain ⟨_, _, hrev⟩ := hctx ▸ hd.rev
  -- the context of `f` was reversed, so the names of the outputs of `s` are pairwise different
  obtain ⟨_, _, _, _, _, _, h1, _⟩ := reverse_chain_ok.1 hrev
  rw [hctx]
  exact fn_clone_feeds (reverse_bag_ok.1 h1).1 hn ho hname hinh

/-- ... and the clone is no input of the decorated graph when the inputs lie below the counter of the state -/
theorem last_input_fresh {l : CtxLayer} {rest : List CtxLayer} {inhf : NameSet} {n o : BNode}
    (hctx : s.ctx = .chain (chainCtx (l :: rest)) (.bag [] [] inhf)) (hn : n ∈ l.bi) (ho : o ∈ s.outputs)
    (hname : o.name = n.name) (hinh : inhf.mem n.name = true) (hlt : ∀ m ∈ s.inputs, m.id < s.next) (hnr : n ∉ r.inputs) :
    ¬ Down r.edges (es.map (·.out)) o → ∀ t, BDen r n t ↔ BDen s o t := by
  obtain ⟨c, _, hfresh, hf, hp⟩ := hd.last_input hctx hn ho hname hinh
  exact hd.through hf hp hnr fun hmem => Nat.lt_irrefl _ (Nat.lt_of_lt_of_le (hlt c (hd.inputs ▸ hmem)) hfresh)

end Decorated

end CM
