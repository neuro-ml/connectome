/-
  CM.Proofs.FilterBag — the container of `Filter` (CM.Model.FilterBag): well-formed, its one field, its names.
-/
import CM.Model.FilterBag
import CM.Proofs.BagSem
import CM.Proofs.BagField
import CM.Proofs.MkBag
namespace CM

section
variable {e : EdgeK} {keys : String} {b : Bag}

theorem filterBag_wf (h : filterBag e keys = .ok b) : b.WF := by
  refine mkBag_wf h (ids_below ?_ ?_ ?_) (fun x hx => nomatch hx) <;> simp only [filterRaw, List.forall_mem_singleton] <;> decide

theorem filterBag_field (h : filterBag e keys = .ok b) (he : e ≠ .identity) : b.Field keys (.node e [.inp keys]) := by
  have hin : b.inputs = [⟨0, keys⟩] := mkBag_inputs h
  exact ⟨⟨1, keys⟩, mkBag_outputs h _ (List.mem_singleton.2 rfl), rfl,
    .unary (p := ⟨0, keys⟩) (by simp [hin]) (mkBag_edges h _ (List.mem_singleton.2 rfl)) he (.input (by simp [hin]))⟩

theorem filterBag_names (h : filterBag e keys = .ok b) (x : String) :
    (x ∈ names b.outputs ↔ x = keys) ∧ (b.virt.mem x = true ↔ x ≠ keys) := by
  obtain ⟨ho, hv⟩ := mkBag_names h
  rw [ho, hv]
  simp [filterRaw, names, NameSet.mem]

end

end CM
