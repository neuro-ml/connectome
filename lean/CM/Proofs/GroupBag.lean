/-
  CM.Proofs.GroupBag — the container `GroupBy` builds (CM.Model.GroupBag): what a returning `groupByBag` says.
-/
import CM.Model.GroupBag
import CM.Proofs.Basics
namespace CM

theorem groupByBag_ok {prev b : Bag} (h : groupByBag prev = .ok b) :
    ∃ i keys, prev.inputs = [i] ∧ byName prev.outputs "ids" = some keys ∧ groupFields prev ≠ [] ∧
      mkBag (groupByRaw prev keys) = .ok b := by
  unfold groupByBag at h
  split at h
  · rename_i i keys hi hk
    obtain ⟨hne, h⟩ := of_guard_ok h
    exact ⟨i, keys, hi, hk, fun h0 => hne (by simp [h0]), h⟩
  · cases h

theorem mem_groupFields {prev : Bag} {f : BNode} : f ∈ groupFields prev ↔ f ∈ prev.outputs ∧ f.name ≠ "ids" ∧ f.name ≠ "id" := by
  simp only [groupFields, List.mem_filter, Bool.and_eq_true, bne_iff_ne]

theorem group_outs_spec (fields : List BNode) (n : Nat) :
    ∀ o ∈ ((List.range fields.length).zip fields).map (fun (p : Nat × BNode) => ({ id := n + 3 + p.1, name := p.2.name } : BNode)),
      o.id < n + 3 + fields.length := by
  intro o ho
  obtain ⟨p, hp, rfl⟩ := List.mem_map.1 ho
  have : p.1 < fields.length := List.mem_range.1 (List.of_mem_zip hp).1
  show n + 3 + p.1 < n + 3 + fields.length
  omega

end CM
