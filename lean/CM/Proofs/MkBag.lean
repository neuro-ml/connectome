/-
  CM.Proofs.MkBag — `mkBag_ok` (`BagChecks`: a returning `EdgesBag(...)`, `mkBag r = .ok b`, is `r.core` and has passed the checks) read
  field by field in terms of the arguments `r`.
-/
import CM.Proofs.CoreWF
namespace CM

/-- the hypothesis `hid` of `core_wf` / `mkBag_wf` (the identities of the arguments lie below the counter) from bounds given list by list -/
theorem ids_below {ins outs : List BNode} {es : List BEdge} {k : Nat} (hi : ∀ n ∈ ins, n.id < k) (ho : ∀ n ∈ outs, n.id < k)
    (he : ∀ e ∈ es, e.out.id < k ∧ ∀ i ∈ e.ins, i.id < k) : ∀ n, n ∈ ins ++ outs ++ edgeNodes es → n.id < k := by
  intro n hn
  simp only [List.mem_append, mem_edgeNodes] at hn
  rcases hn with (hn | hn) | ⟨e, hm, rfl | hn⟩
  · exact hi n hn
  · exact ho n hn
  · exact (he e hm).1
  · exact (he e hm).2 n hn

section
variable {r : RawBag} {b : Bag}

theorem mkBag_inputs (h : mkBag r = .ok b) : b.inputs = r.inputs := by
  obtain ⟨rfl, _⟩ := mkBag_ok h
  rfl

theorem mkBag_edges (h : mkBag r = .ok b) : ∀ e ∈ r.edges, e ∈ b.edges := by
  obtain ⟨rfl, _⟩ := mkBag_ok h
  exact fun e he => List.mem_append_left _ he

theorem mkBag_outputs (h : mkBag r = .ok b) : ∀ o ∈ r.outputs, o ∈ b.outputs := by
  obtain ⟨rfl, _⟩ := mkBag_ok h
  exact fun o ho => List.mem_append_left _ ho

theorem mkBag_ctx (h : mkBag r = .ok b) : b.ctx = r.ctx := by
  obtain ⟨rfl, _⟩ := mkBag_ok h
  rfl

theorem mkBag_persistent (h : mkBag r = .ok b) : b.persistent = r.persistent := by
  obtain ⟨rfl, _⟩ := mkBag_ok h
  rfl

/-- **What `EdgesBag(...)` exposes and passes on, by name**: the given outputs and the pass-through outputs of rule 3; those are no
longer virtual. -/
theorem mkBag_names (h : mkBag r = .ok b) :
    (∀ x, x ∈ names b.outputs ↔ x ∈ names r.outputs ∨
        (x ∈ names r.inputs ∧ (r.virt.mem x = true ∨ x ∈ r.persistent) ∧ x ∉ names r.outputs)) ∧
    (∀ x, b.virt.mem x = (r.virt.mem x &&
        !(x ∈ names r.inputs ∧ (r.virt.mem x = true ∨ x ∈ r.persistent) ∧ x ∉ names r.outputs : Bool))) := by
  obtain ⟨rfl, _⟩ := mkBag_ok h
  refine ⟨fun x => ?_, fun x => ?_⟩
  · rw [r.names_core_outputs, List.mem_append, RawBag.mem_names_rule3]
  · rw [r.core_virt]
    congr 2
    exact decide_eq_decide.2 (r.mem_names_rule3 x)

theorem mkBag_of_no_names (h : mkBag r = .ok b) (hv : r.virt = .empty) (hp : r.persistent = []) :
    b.outputs = r.outputs ∧ b.edges = r.edges := by
  obtain ⟨rfl, _⟩ := mkBag_ok h
  refine RawBag.core_of_rule3_nil (List.filter_eq_nil_iff.2 fun i _ => ?_)
  simp only [hv, hp, NameSet.mem_empty, List.contains_nil, Bool.or_false, Bool.false_and, Bool.false_eq_true, not_false_eq_true]

theorem mkBag_wf (h : mkBag r = .ok b) (hid : ∀ n, n ∈ r.inputs ++ r.outputs ++ edgeNodes r.edges → n.id < r.next)
    (hp : ∀ x ∈ r.persistent, x ∈ names r.outputs ∨ x ∈ names r.inputs) : b.WF := by
  obtain ⟨rfl, hc⟩ := mkBag_ok h
  exact core_wf r hc hid hp

end
end CM
