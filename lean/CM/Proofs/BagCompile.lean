/-
  CM.Proofs.BagCompile — the graph compiled from a bag: which node sits at which index.
-/
import CM.Proofs.Basics
import CM.Proofs.BagPeel
namespace CM

theorem compileGraph_eq (b : Bag) (o : BNode) :
    b.compileGraph o = { nodes := (b.leaves o).map mkLeaf ++ b.order.map (b.mkEdge o),
                         inputs := b.inputs.map (b.idx o), output := b.idx o o } := rfl

/-- `peel_sub` (BagPeel) for `b.order`, which is `(topoEdges b.edges).1` -/
theorem order_sub (b : Bag) : ∀ e ∈ b.order, e ∈ b.edges := peel_sub _ _

/-- `detect_cycles` finds nothing ⇒ every edge is in the topological order: `topoEdges_all` (BagPeel) for `b.order` -/
theorem peeled_of_acyclic {b : Bag} (h : acyclicB b.edges = true) : ∀ e ∈ b.edges, e ∈ b.order := topoEdges_all h

section
variable {b : Bag} {o : BNode}

theorem mem_outs {n : BNode} : n ∈ b.outs ↔ ∃ e ∈ b.order, e.out = n := by
  simp [Bag.outs]

theorem mem_leaves {n : BNode} : n ∈ b.leaves o ↔ (n ∈ edgeNodes b.edges ∨ n ∈ b.inputs ∨ n = o) ∧ n ∉ b.outs := by
  simp [Bag.leaves, List.mem_eraseDups]

theorem mem_nodeList {n : BNode} : n ∈ b.nodeList o ↔ n ∈ edgeNodes b.edges ∨ n ∈ b.inputs ∨ n = o ∨ n ∈ b.outs := by
  simp only [Bag.nodeList, List.mem_append, mem_leaves]
  by_cases h : n ∈ b.outs <;> simp [h]

theorem idx_eq (n : BNode) :
    b.idx o n = if n ∈ b.leaves o then (b.leaves o).idxOf n else b.outs.idxOf n + (b.leaves o).length :=
  List.idxOf_append

theorem idx_lt {n : BNode} (h : n ∈ b.nodeList o) : b.idx o n < (b.nodeList o).length :=
  List.idxOf_lt_length_iff.2 h

theorem idx_inj {n m : BNode} (hn : n ∈ b.nodeList o) (hm : m ∈ b.nodeList o) (h : b.idx o n = b.idx o m) : n = m :=
  idxOf_inj hn h

theorem nodes_length : (b.compileGraph o).nodes.length = (b.nodeList o).length := by
  simp [compileGraph_eq, Bag.nodeList, Bag.outs]

theorem nodes_getElem? {i : Nat} {nd : Node} (h : (b.compileGraph o).nodes[i]? = some nd) :
    (∃ n ∈ b.leaves o, nd = mkLeaf n) ∨
      ∃ k e, i = (b.leaves o).length + k ∧ b.order[k]? = some e ∧ nd = b.mkEdge o e := by
  rw [compileGraph_eq, List.getElem?_append, List.length_map] at h
  split at h
  · obtain ⟨n, hn, rfl⟩ := Option.map_eq_some_iff.1 (List.getElem?_map ▸ h)
    exact .inl ⟨n, List.mem_of_getElem? hn, rfl⟩
  · obtain ⟨e, he, rfl⟩ := Option.map_eq_some_iff.1 (List.getElem?_map ▸ h)
    exact .inr ⟨_, e, by omega, he, rfl⟩

theorem leaf_of_no_edge {n : BNode} (hn : n ∈ b.nodeList o) (hno : ∀ e ∈ b.edges, e.out ≠ n) : n ∈ b.leaves o := by
  refine (List.mem_append.1 hn).resolve_right fun ho => ?_
  obtain ⟨e, he, heo⟩ := mem_outs.1 ho
  exact hno e (order_sub b e he) heo

theorem inputs_contains_idx {n : BNode} (hn : n ∈ b.nodeList o) :
    (b.compileGraph o).inputs.contains (b.idx o n) = true ↔ n ∈ b.inputs := by
  simp only [compileGraph_eq, List.contains_iff_mem, List.mem_map]
  exact ⟨fun ⟨m, hm, hi⟩ => idxOf_inj hn hi.symm ▸ hm, fun h => ⟨n, h, rfl⟩⟩

theorem node_of_leaf {n : BNode} (h : n ∈ b.leaves o) : (b.compileGraph o).nodes[b.idx o n]? = some (mkLeaf n) := by
  have hlt : (b.leaves o).idxOf n < ((b.leaves o).map mkLeaf).length := by
    rw [List.length_map]; exact List.idxOf_lt_length_iff.2 h
  rw [compileGraph_eq, idx_eq n, if_pos h, List.getElem?_append_left hlt]
  have := getElem?_map_idxOf id mkLeaf (fun _ _ _ _ h => h) h
  rwa [List.map_id] at this

theorem node_of_edge_out (hs : SingleIncoming b.edges) {e : BEdge} (he : e ∈ b.order) :
    (b.compileGraph o).nodes[b.idx o e.out]? = some (b.mkEdge o e) := by
  have hnl : e.out ∉ b.leaves o := fun h => (mem_leaves.1 h).2 (mem_outs.2 ⟨e, he, rfl⟩)
  rw [compileGraph_eq, idx_eq e.out, if_neg hnl,
    List.getElem?_append_right (by rw [List.length_map]; exact Nat.le_add_left ..), List.length_map, Nat.add_sub_cancel, Bag.outs]
  -- distinct edges of the order have distinct outputs
  exact getElem?_map_idxOf BEdge.out (b.mkEdge o) (fun x hx y hy => hs x (order_sub b x hx) y (order_sub b y hy)) he

end
end CM
