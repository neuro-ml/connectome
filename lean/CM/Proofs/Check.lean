/-
  CM.Proofs.Check — the hypotheses of `vm_correct` (`okB`, `okCB`, `callOKB`) and of the hash theorems C05 and C06 (`plainB`,
  `plainGB`) as executable checks, so that the driver can evaluate them on every graph extracted from the real compiler (the
  correspondence suite reports how many real graphs satisfy them) and so that examples can discharge them by evaluation.
-/
import CM.Proofs.DenLemmas
import CM.Proofs.BeqSound
import CM.Proofs.CacheSound
import CM.Proofs.Correct
import CM.Proofs.Decode
import CM.Proofs.DecodeG
namespace CM

/-- `GraphOK`, decided node by node -/
def Graph.okB (g : Graph) : Bool :=
  (List.range g.nodes.length).all fun n =>
    (g.node n).parents.all (· < n) &&
    (match (g.node n).edge with | some e => e.wf | none => true) &&
    (!g.usedInputs.contains n || (g.node n).edge.isNone)

theorem at_node {g : Graph} {P : Nat → Prop} (h : ∀ n, n < g.nodes.length → P n) {n : Nat} {nd : Node}
    (hn : g.nodes[n]? = some nd) : g.node n = nd ∧ P n :=
  ⟨node_eq_of_getElem? hn, h n (List.getElem?_eq_some_iff.mp hn).1⟩

/-- the two checks shared by `okB`, `okCB` and `plainB` -/
theorem graphBase_of (g : Graph)
    (h : ∀ n nd, g.nodes[n]? = some nd →
      (∀ p ∈ nd.parents, decide (p < n) = true) ∧ (!g.usedInputs.contains n || nd.edge.isNone) = true) :
    GraphBase g where
  topo n nd hn p hp := of_decide_eq_true ((h n nd hn).1 p hp)
  inputsLeaves n nd hn hu := by have := (h n nd hn).2; rw [hu] at this; simpa using this

theorem okB_sound (g : Graph) (h : g.okB = true) : GraphOK g := by
  simp only [Graph.okB, List.all_eq_true, List.mem_range, Bool.and_eq_true] at h
  refine { toGraphBase := graphBase_of g fun n nd hn => ?_, wf := fun n nd e hn he => ?_ }
  all_goals obtain ⟨rfl, hc⟩ := at_node h hn
  · exact ⟨hc.1.1, hc.2⟩
  · rw [he] at hc; exact hc.1.2

/-- `GraphOKC`, decided -/
def Graph.okCB (g : Graph) : Bool :=
  (List.range g.nodes.length).all fun n =>
    (g.node n).parents.all (· < n) &&
    (match (g.node n).edge with
     | some e => e.wf || (match e with | .cache _ => true | _ => false)
     | none => true) &&
    (!g.usedInputs.contains n || (g.node n).edge.isNone)

theorem okCB_sound (g : Graph) (h : g.okCB = true) : GraphOKC g := by
  simp only [Graph.okCB, List.all_eq_true, List.mem_range, Bool.and_eq_true] at h
  refine { toGraphBase := graphBase_of g fun n nd hn => ?_, wfc := fun n nd e hn he => ?_ }
  all_goals obtain ⟨rfl, hc⟩ := at_node h hn
  · exact ⟨hc.1.1, hc.2⟩
  · rw [he] at hc
    obtain hw | hc := (Bool.or_eq_true _ _).mp hc.1.2
    · exact .inl hw
    · split at hc
      · exact .inr ⟨_, rfl⟩
      · cases hc

/-- `CallOK`, decided over the used inputs -/
def Graph.callOKB (g : Graph) (env : String → Option Val) : Bool :=
  g.usedInputs.all (fun j => (env (g.node j).name).isSome && decide (j < g.nodes.length)) && decide (g.output < g.nodes.length)

theorem callOKB_sound (g : Graph) (env : String → Option Val) (h : g.callOKB env = true) : CallOK g env := by
  simp only [Graph.callOKB, Bool.and_eq_true, List.all_eq_true, decide_eq_true_eq] at h
  exact ⟨fun j hj => (h.1 j (by simpa using hj)).1, fun j hj => (h.1 j (by simpa using hj)).2, h.2⟩

/-- `Plain`, decided node by node -/
def Graph.plainB (g : Graph) (d : DenCfg) : Bool :=
  (List.range g.nodes.length).all fun n =>
    (g.node n).parents.all (· < n) &&
    (!g.usedInputs.contains n || (g.node n).edge.isNone) &&
    (match (g.node n).edge with
     | none => true
     | some e => e.plain && (!e.passThrough || decide (1 ≤ (g.node n).parents.length)) &&
        (match e with
         | .function f _ _ => (d.constFns.find? (·.1 == f)).isNone && !d.impureFns.contains f
         | _ => true))

theorem plainB_sound (g : Graph) (d : DenCfg) (h : g.plainB d = true) : Plain g d := by
  simp only [Graph.plainB, List.all_eq_true, List.mem_range, Bool.and_eq_true] at h
  refine {
    toGraphBase := graphBase_of g fun n nd hn => ?_
    plain := fun n nd e hn he => ?_
    arity := fun n nd e hn he hpt => ?_
    pure := fun n nd f kwn sil hn he pos kwv => ?_ }
  -- `hc`, once `Bool.and_eq_true` is through: `(parents ∧ leaf) ∧ (plain ∧ arity) ∧ (no constant ∧ not impure)`
  all_goals obtain ⟨rfl, hc⟩ := at_node h hn
  · exact hc.1
  · rw [he] at hc; simp only [Bool.and_eq_true] at hc; exact hc.2.1.1
  · rw [he] at hc; simp only [Bool.and_eq_true] at hc; simpa [hpt] using hc.2.1.2
  · rw [he] at hc; simp only [Bool.and_eq_true, Bool.not_eq_true'] at hc
    exact call_pure d n f pos kwn kwv hc.2.2.1 hc.2.2.2

/-- `PlainG`, decided: `plainB`, every used input bound to `x`, and node by node the fields `consts`, `innerPlain`, `innerPure` -/
def Graph.plainGB (g : Graph) (d : DenCfg) (x : Val) : Bool :=
  g.plainB d &&
  (g.usedInputs.all fun n => match d.env (g.node n).name with | some v => v == x | none => false) &&
  (List.range g.nodes.length).all fun n =>
    (match (g.node n).edge with
     | none => true
     | some e => e.noPlaceholder &&
        (match e with
         | .byValue i => i.plain &&
            (match i with
             | .function f _ _ => (d.constFns.find? (·.1 == f)).isNone && !d.impureFns.contains f
             | _ => true)
         | _ => true))

theorem plainGB_sound (g : Graph) (d : DenCfg) (x : Val) (h : g.plainGB d x = true) : PlainG g d x := by
  simp only [Graph.plainGB, Bool.and_eq_true, List.all_eq_true, List.mem_range] at h
  obtain ⟨⟨hp, hb⟩, h⟩ := h
  refine {
    toPlain := plainB_sound g d hp
    bound := fun n hu => ?_
    consts := fun n nd e hn he => ?_
    innerPlain := fun n nd i hn he => ?_
    innerPure := fun n nd i hn he f kwn sil hi pos kwv => ?_ }
  · have := hb n (by simpa using hu)
    cases hv : d.env (g.node n).name with
    | none => rw [hv] at this; cases this
    | some v => rw [hv] at this; rw [Val.eq_of_beq v x this]
  all_goals
    obtain ⟨rfl, hc⟩ := at_node h hn
    rw [he] at hc
    simp only [Bool.and_eq_true] at hc
  · exact hc.1
  · exact hc.2.1
  · rw [hi] at hc; simp only [Bool.and_eq_true, Bool.not_eq_true'] at hc
    exact call_pure d n f pos kwn kwv hc.2.2.1 hc.2.2.2

end CM
