/-
  CM.Proofs.Deps — what a generator asks of other generators in the cache-free evaluation, and the resulting notion
  of *need*: the generators (hash / value of a node) that evaluating the requested output demands.  At the end: what
  a switch edge (Merge) asks for - the key and the branch the key routes to, no other branch.
-/
import CM.Proofs.Sound
namespace CM

/-- a request to another generator: the hash / the value of the `i`-th parent, or the node's own hash -/
inductive Dep where
  | ph (i : Nat)
  | pv (i : Nat)
  | cur
  deriving Repr, DecidableEq

mutual
  def reqDeps : Req → List Dep
    | .parentHash i => [.ph i]
    | .parentValue i => [.pv i]
    | .currentHash => [.cur]
    | .payload => [.cur]
    | .await rs => reqsDeps rs
    | .call _ _ _ _ => []
  def reqsDeps : List Req → List Dep
    | [] => []
    | r :: rs => reqDeps r ++ reqsDeps rs
end

/-- the requests a program issues when every answer is the denotation's and every cache lookup misses -/
def progDeps (c : Ctx) : Prog → List Dep
  | .ret _ => []
  | .raise _ => []
  | .req r k => reqDeps r ++ (match interpReq c r with | .ok x => progDeps c (k x) | .error _ => [])
  | .eff (.get _ _) k => progDeps c (k none)
  | .eff (.set _ _ _) k => progDeps c (k none)

/-- the generator a request of node `n` is addressed to, as (hash generator?, node); throughout, a Boolean `hp` next to a node says
which of its two generators is meant: `true` the hash generator (`compute_hash`), `false` the value generator (`evaluate`) -/
def depTarget (g : Graph) (n : Nat) : Dep → Option (Bool × Nat)
  | .ph i => (g.parents n)[i]?.map fun p => (true, p)
  | .pv i => (g.parents n)[i]?.map fun p => (false, p)
  | .cur => some (true, n)

/-- the program of the hash (`hp = true`) or value generator of node `n` with edge `e` -/
def genProg (g : Graph) (n : Nat) (e : EdgeK) (hp : Bool) : Prog :=
  if hp then e.hashProg (g.parents n).length else e.evalProg (g.parents n).length

/-- `Need root hp n`: the generator (`hp`: hash, else value) of node `n` is demanded by the cache-free evaluation of
the generator `root` -/
inductive Need (g : Graph) (d : DenCfg) (root : Bool × Nat) : Bool → Nat → Prop
  | root : Need g d root root.1 root.2
  | step (hp : Bool) (n : Nat) (e : EdgeK) (q : Dep) (hp' : Bool) (n' : Nat) :
      Need g d root hp n → (g.node n).edge = some e → q ∈ progDeps (ctxOf g d n) (genProg g n e hp) →
      depTarget g n q = some (hp', n') → Need g d root hp' n'

/-- the first step of a demand chain -/
theorem need_unfold (g : Graph) (d : DenCfg) (root : Bool × Nat) (hp' : Bool) (n' : Nat) (h : Need g d root hp' n') :
    (hp', n') = root ∨ ∃ e q hp1 n1, (g.node root.2).edge = some e ∧
      q ∈ progDeps (ctxOf g d root.2) (genProg g root.2 e root.1) ∧ depTarget g root.2 q = some (hp1, n1) ∧ Need g d (hp1, n1) hp' n' := by
  induction h with
  | root => exact .inl rfl
  | step hp n e q hp2 n2 _ he hq ht ih =>
    right
    rcases ih with heq | ⟨e0, q0, hp1, n1, he0, hq0, ht0, hn0⟩
    · cases heq
      exact ⟨e, q, hp2, n2, he, hq, ht, .root⟩
    · exact ⟨e0, q0, hp1, n1, he0, hq0, ht0, .step hp n e q hp2 n2 hn0 he hq ht⟩

theorem reqsDeps_append : ∀ (xs ys : List Req), reqsDeps (xs ++ ys) = reqsDeps xs ++ reqsDeps ys
  | [], ys => by simp [reqsDeps]
  | x :: xs, ys => by simp [reqsDeps, reqsDeps_append xs ys]

theorem mem_reqsDeps_reverse (rs : List Req) (q : Dep) : q ∈ reqsDeps rs.reverse ↔ q ∈ reqsDeps rs := by
  induction rs with
  | nil => simp
  | cons r rs ih =>
    simp only [List.reverse_cons, reqsDeps_append, reqsDeps, List.append_nil, List.mem_append, ih]
    exact Or.comm

/-- what a `SwitchEdge` (Merge) demands while hashing: the key, and the hash of the branch the key routes to — no
other branch -/
theorem switch_hash_deps (c : Ctx) (t : List (Val × Nat)) (a : Nat) :
    ∀ q ∈ progDeps c ((EdgeK.switch t).hashProg a),
      q = .pv 0 ∨ ∃ key idx, c.pv 0 = .ok key ∧ tableLookup t key = some idx ∧ q = .ph (idx + 1) := by
  intro q hq
  simp only [EdgeK.hashProg, progDeps, reqDeps, interpReq, List.mem_append, List.mem_singleton] at hq
  rcases hq with hq | hq
  · exact .inl hq
  · right
    cases hpv : c.pv 0 with
    | error e => simp [hpv, Except.map] at hq
    | ok key =>
      simp only [hpv, Except.map] at hq
      cases hlk : tableLookup t key with
      | none => simp [hlk, progDeps] at hq
      | some idx =>
        simp only [hlk, progDeps, reqDeps, interpReq, List.mem_append, List.mem_singleton] at hq
        rcases hq with hq | hq
        · exact ⟨key, idx, rfl, hlk, hq⟩
        · cases hph : c.ph (idx + 1) with
          | error e => simp [hph, Except.map] at hq
          | ok hh => simp [hph, Except.map, progDeps] at hq

/-- and while evaluating: its own hash (the routing decision) and the value of that same branch -/
theorem switch_eval_deps (c : Ctx) (t : List (Val × Nat)) (a : Nat) :
    ∀ q ∈ progDeps c ((EdgeK.switch t).evalProg a),
      q = .cur ∨ ∃ (h : NHash) (idx : Int), c.cur = .ok (h, .int idx) ∧ q = .pv (idx.toNat + 1) := by
  intro q hq
  simp only [EdgeK.evalProg, progDeps, reqDeps, interpReq, List.mem_append, List.mem_singleton] at hq
  rcases hq with hq | hq
  · exact .inl hq
  · right
    cases hcur : c.cur with
    | error e => simp [hcur, Except.map] at hq
    | ok hp =>
      obtain ⟨h, p⟩ := hp
      simp only [hcur, Except.map] at hq
      split at hq
      · next idx heq =>
        simp only [progDeps, reqDeps, interpReq, List.mem_append, List.mem_singleton] at hq
        injection heq with heq
        rcases hq with hq | hq
        · exact ⟨h, idx, by rw [heq], hq⟩
        · cases hpv : c.pv (idx.toNat + 1) with
          | error e => simp [hpv, Except.map] at hq
          | ok v => simp [hpv, Except.map] at hq
      · simp [progDeps] at hq

end CM
