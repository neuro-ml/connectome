/-
  CM.Proofs.BagPeel — `peel` (the model of `detect_cycles` / the order of `from_edges`): it only rearranges the edges
  (`peel_perm`), and it emits them parents first (`peel_topo`).
-/
import CM.Proofs.BagStruct
namespace CM

theorem ready_notReady_perm (es : List BEdge) : (readyEdges es ++ notReady es).Perm es := by
  simpa only [readyEdges, notReady] using List.filter_append_perm (fun e => e.ins.all fun i => isLeafIn es i) es

theorem peel_perm : ∀ (fuel : Nat) (es : List BEdge), ((peel fuel es).1 ++ (peel fuel es).2).Perm es
  | 0, es => by simp [peel]
  | fuel + 1, es => by
    simp only [peel]
    split
    · simp
    · rw [List.append_assoc]
      exact (List.Perm.append_left _ (peel_perm fuel (notReady es))).trans (ready_notReady_perm es)

theorem peel_sub (fuel : Nat) (es : List BEdge) : ∀ e ∈ (peel fuel es).1, e ∈ es :=
  fun _ he => (peel_perm fuel es).subset (List.mem_append_left _ he)

theorem topoEdges_all {es : List BEdge} (hac : acyclicB es = true) : ∀ e ∈ es, e ∈ (topoEdges es).1 := by
  intro e he
  have hp := (peel_perm es.length es).symm.subset he
  rwa [show (peel es.length es).2 = [] by simpa [acyclicB, topoEdges] using hac, List.append_nil] at hp

/-- `L` lists edges parents first: the inputs of every edge are leaves of `es`, or already `seen`, or outputs of earlier
edges of `L` -/
def TopoFrom (es : List BEdge) : List BNode → List BEdge → Prop
  | _, [] => True
  | seen, e :: L => (∀ p ∈ e.ins, (∀ e' ∈ es, e'.out ≠ p) ∨ p ∈ seen) ∧ TopoFrom es (e.out :: seen) L

theorem topoFrom_mono (es : List BEdge) : ∀ (L : List BEdge) {seen seen' : List BNode},
    seen ⊆ seen' → TopoFrom es seen L → TopoFrom es seen' L
  | [], _, _, _, _ => trivial
  | _ :: L, _, _, hs, h => ⟨fun p hp => (h.1 p hp).imp id (@hs p), topoFrom_mono es L (List.cons_subset_cons _ hs) h.2⟩

theorem topoFrom_batch (es : List BEdge) (L : List BEdge) : ∀ (r : List BEdge) (seen : List BNode),
    (∀ e ∈ r, ∀ p ∈ e.ins, (∀ e' ∈ es, e'.out ≠ p) ∨ p ∈ seen) → TopoFrom es (r.map (·.out) ++ seen) L →
    TopoFrom es seen (r ++ L)
  | [], _, _, h => h
  | x :: r, seen, hr, h =>
    ⟨hr x (List.mem_cons_self ..), topoFrom_batch es L r (x.out :: seen)
      (fun e he p hp => (hr e (List.mem_cons_of_mem _ he) p hp).imp id (List.mem_cons_of_mem _))
      (topoFrom_mono es L List.perm_middle.symm.subset h)⟩

theorem ready_leaf {es : List BEdge} {e : BEdge} (h : e ∈ readyEdges es) : ∀ p ∈ e.ins, ∀ e' ∈ es, e'.out ≠ p :=
  fun p hp => isLeafIn_eq_true.1 (List.all_eq_true.1 (List.mem_filter.1 h).2 p hp)

/-- **`peel` emits the edges parents first.**  Every edge of `es` is still to come (in `es'`) or has its output among `seen`;
an edge that is ready in `es'` has no input produced by an edge still to come. -/
theorem peel_topo (es : List BEdge) : ∀ (fuel : Nat) (es' : List BEdge) (seen : List BNode),
    (∀ e ∈ es, e.out ∈ seen ∨ e ∈ es') → TopoFrom es seen (peel fuel es').1
  | 0, _, _, _ => trivial
  | fuel + 1, es', seen, hcov => by
    simp only [peel]
    split
    · trivial
    · refine topoFrom_batch es _ _ seen ?_ (peel_topo es fuel (notReady es') _ ?_)
      · intro x hx p hp
        by_cases hex : ∃ e' ∈ es, e'.out = p
        · obtain ⟨e', he', ho⟩ := hex
          exact (hcov e' he').elim (fun h => .inr (ho ▸ h)) fun h => absurd ho (ready_leaf hx p hp e' h)
        · exact .inl fun e' he' ho => hex ⟨e', he', ho⟩
      · intro e he
        rcases hcov e he with h | h
        · exact .inl (List.mem_append_right _ h)
        · rcases List.mem_append.1 ((ready_notReady_perm es').symm.subset h) with hr | hn
          · exact .inl (List.mem_append_left _ (List.mem_map.2 ⟨e, hr, rfl⟩))
          · exact .inr hn

theorem topoEdges_topo (es : List BEdge) : TopoFrom es [] (topoEdges es).1 :=
  peel_topo es _ es [] fun _ he => .inr he

theorem topoFrom_getElem? (es : List BEdge) {L : List BEdge} {seen : List BNode} {k : Nat} {e : BEdge}
    (h : TopoFrom es seen L) (hk : L[k]? = some e) :
    ∀ p ∈ e.ins, (∀ e' ∈ es, e'.out ≠ p) ∨ p ∈ seen ∨ ∃ e' ∈ L.take k, e'.out = p := by
  intro p hp
  induction L generalizing seen k with
  | nil => cases hk
  | cons x L ih =>
    cases k with
    | zero => cases hk; exact (h.1 p hp).imp id Or.inl
    | succ k =>
      rcases ih h.2 hk with h1 | h1 | ⟨e', he', ho⟩
      · exact .inl h1
      · rcases List.mem_cons.1 h1 with rfl | h1
        · exact .inr (.inr ⟨x, List.mem_cons_self .., rfl⟩)
        · exact .inr (.inl h1)
      · exact .inr (.inr ⟨e', List.mem_cons_of_mem _ he', ho⟩)

end CM
