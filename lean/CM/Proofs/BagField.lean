/-
  CM.Proofs.BagField — what a connected pipeline exposes, field by field.
-/
import CM.Proofs.BagGlue
namespace CM
section
variable {l r : Bag}

/-- the field `x` of a bag computes `t` -/
def Bag.Field (b : Bag) (x : String) (t : BTerm) : Prop := ∃ o ∈ b.outputs, o.name = x ∧ BDen b o t

theorem Bag.Field.mem_names {b : Bag} {x : String} {t : BTerm} (h : b.Field x t) : x ∈ names b.outputs :=
  let ⟨o, ho, hx, _⟩ := h
  CM.mem_names.2 ⟨o, ho, hx⟩

theorem Bag.WF.field_det {b : Bag} (hb : b.WF) {x : String} {t₁ t₂ : BTerm}
    (h₁ : b.Field x t₁) (h₂ : b.Field x t₂) : t₁ = t₂ := by
  obtain ⟨o₁, ho₁, hx₁, hd₁⟩ := h₁
  obtain ⟨o₂, ho₂, rfl, hd₂⟩ := h₂
  cases hb.outNames o₁ ho₁ o₂ ho₂ hx₁
  exact BDen.det hb.single hd₁ hd₂

theorem Glue.field {x : String} {t : BTerm} (hx : x ∈ names l.outputs) (hg : Glue l (.inp x) t) : l.Field x t := by
  cases hg with
  | fed ho hon hd => exact ⟨_, ho, hon, hd⟩
  | virt hx' _ | cut hx' _ => exact absurd hx hx'

theorem not_input_rv (h : Sep l r) {k : BNode} (hk : k ∈ (rvPart l r).1) : k ∉ (connected l r).inputs := fun h1 => by
  have := (fresh_rv hk).1; have := h.le
  rcases connected_input_id h h1 with h1 | h1 <;> omega

theorem den_rv (h : Sep l r) (hs : SingleIncoming (connected l r).edges) {o k : BNode}
    (ho : o ∈ l.outputs) (hk : k ∈ (rvPart l r).1) (he : identityEdge o k ∈ (rvPart l r).2.1) (t : BTerm) :
    BDen (connected l r) k t ↔ BDen l o t :=
  (den_identity_edge hs ((mem_connected_edges h).2 (.inr (.inr (.inr (.inr he))))) (not_input_rv h hk) t).trans
    (den_left h (h.l_id (nodes3_out ho)) t)

/-- **What a connected pipeline exposes** (C02): the fields of the right bag, computed from the left bag's fields, and the
fields of the left bag that the right bag passes on (it inherits them, or they are persistent and not redefined), unchanged.
Nothing else. -/
theorem connected_field (h : Sep l r) (hs : SingleIncoming (connected l r).edges) (x : String) (t : BTerm) :
    (connected l r).Field x t ↔
      (∃ t0, r.Field x t0 ∧ Glue l t0 t) ∨ (passes l r x = true ∧ l.Field x t) := by
  simp only [Bag.Field, connected_outputs h, List.mem_append]
  constructor
  · rintro ⟨o, ho | ho, rfl, hd⟩
    · obtain ⟨t0, hd0, hg⟩ := (den_right h (h.r_id (nodes3_out ho)) t).1 hd
      exact .inl ⟨t0, ⟨o, ho, rfl, hd0⟩, hg⟩
    · obtain ⟨n, hn, hcn, he⟩ := cloneEdges_of_clone ho
      obtain ⟨hnl, hnp⟩ := mem_rvNodes.1 hn
      exact .inr ⟨hcn ▸ hnp, n, hnl, hcn.symm, (den_rv h hs hnl ho he t).1 hd⟩
  · rintro (⟨t0, ⟨o, ho, hox, hd0⟩, hg⟩ | ⟨hp, o, ho, rfl, hd⟩)
    · exact ⟨o, .inl ho, hox, (den_right h (h.r_id (nodes3_out ho)) t).2 ⟨t0, hd0, hg⟩⟩
    · obtain ⟨c, hc, hcn, he⟩ := rv_of_source (mem_rvNodes.2 ⟨ho, hp⟩)
      exact ⟨c, .inr hc, hcn, (den_rv h hs ho hc he t).2 hd⟩

/-- the names the connected pipeline exposes: the clones of the passed-on outputs bear their names -/
theorem connected_names (h : Sep l r) (x : String) :
    x ∈ names (connected l r).outputs ↔ x ∈ names r.outputs ∨ (x ∈ names l.outputs ∧ passes l r x = true) := by
  rw [connected_outputs h, names_append, names_rv, List.mem_append, List.mem_filter]

/-- **No stale field** (C02): a field of the left bag that the right bag neither defines nor passes on is gone. -/
theorem gone_field (h : Sep l r) {x : String} (hr : x ∉ names r.outputs) (hp : passes l r x = false) :
    x ∉ names (connected l r).outputs := by
  simp [connected_names h, hr, hp]

end

end CM
