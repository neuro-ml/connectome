/-
  CM.Proofs.DenLemmas — `den g d n`, the denotation of node `n`: it is `denNode` applied to the denotations of the earlier nodes
  (`den_eq`), with the cases of a used input, a leaf and a node outside the graph; and three facts about `Graph.node`.
-/
import CM.Model.Denote
import CM.Proofs.PrefixFold
namespace CM

/-- the denotation of node `n`: its node hash and its value in the cache-free evaluation.  A node outside the graph denotes the
internal error, whereas `vden` / `hden` (CM.Model.Denote) read the output with `default`, another error: they agree with `den`
only for an output inside the graph (`vden_eq`, `hden_eq`), which is why `CallOK` asks for that. -/
def den (g : Graph) (d : DenCfg) (n : Nat) : Den := (denAll g d).getD n ⟨.error .internal, .error .internal⟩

theorem denFrom_eq (g : Graph) (d : DenCfg) : ∀ (nodes : List Node) (i : Nat) (acc : List Den),
    denFrom g d nodes i acc = prefixFold (denNode g d) nodes i acc
  | [], _, _ => rfl
  | nd :: rest, i, acc => by rw [denFrom, prefixFold, denFrom_eq g d rest]

theorem denAll_length (g : Graph) (d : DenCfg) : (denAll g d).length = g.nodes.length := by
  rw [denAll, denFrom_eq, prefixFold_length]; exact Nat.zero_add _

theorem den_eq (g : Graph) (d : DenCfg) (n : Nat) (nd : Node) (h : g.nodes[n]? = some nd) :
    den g d n = denNode g d ((denAll g d).take n) n nd := by
  have := prefixFold_get (denNode g d) g.nodes 0 [] n nd rfl h
  simp only [Nat.zero_add, ← denFrom_eq] at this
  simp only [den, denAll, List.getD_eq_getElem?_getD, this, Option.getD_some]

theorem node_eq_of_getElem? {g : Graph} {n : Nat} {nd : Node} (h : g.nodes[n]? = some nd) : g.node n = nd := by
  simp [Graph.node, List.getD_eq_getElem?_getD, h]

theorem node_of_edge {g : Graph} {n : Nat} {e : EdgeK} (h : (g.node n).edge = some e) : g.nodes[n]? = some (g.node n) := by
  simp only [Graph.node, List.getD_eq_getElem?_getD] at h ⊢
  cases hn : g.nodes[n]? with
  | none => simp [hn] at h; cases h
  | some nd => simp

theorem getElem?_node {g : Graph} {n : Nat} (h : n < g.nodes.length) : g.nodes[n]? = some (g.node n) := by
  simp [Graph.node, List.getD_eq_getElem?_getD, List.getElem?_eq_getElem h]

theorem den_usedInput (g : Graph) (d : DenCfg) {n : Nat} {nd : Node} (h : g.nodes[n]? = some nd)
    (hu : g.usedInputs.contains n = true) :
    den g d n = match d.env nd.name with
      | some v => ⟨.ok (.leaf v, .none), .ok v⟩
      | none => ⟨.error .internal, .error .internal⟩ := by
  rw [den_eq g d n nd h, denNode, if_pos hu]
  rfl

theorem den_input (g : Graph) (d : DenCfg) (n : Nat) (v : Val) (hu : g.usedInputs.contains n = true)
    (hr : n < g.nodes.length) (hv : d.env (g.node n).name = some v) :
    den g d n = ⟨.ok (.leaf v, .none), .ok v⟩ := by
  rw [den_usedInput g d (getElem?_node hr) hu, hv]

theorem den_noEdge (g : Graph) (d : DenCfg) {n : Nat} {nd : Node} (h : g.nodes[n]? = some nd)
    (hu : g.usedInputs.contains n = false) (he : nd.edge = none) : den g d n = ⟨.error .internal, .error .internal⟩ := by
  rw [den_eq g d n nd h, denNode, if_neg (hu ▸ Bool.false_ne_true), he]

theorem take_getD (g : Graph) (d : DenCfg) (n p : Nat) (hp : p < n) :
    ((denAll g d).take n).getD p ⟨.error .internal, .error .internal⟩ = den g d p := by
  simp only [den, List.getD_eq_getElem?_getD, List.getElem?_take, hp, if_true]

theorem den_absent (g : Graph) (d : DenCfg) (n : Nat) (h : g.nodes[n]? = none) :
    den g d n = ⟨.error .internal, .error .internal⟩ := by
  have : (denAll g d)[n]? = none := by
    rw [List.getElem?_eq_none_iff, denAll_length] at *
    exact h
  simp only [den, List.getD_eq_getElem?_getD, this, Option.getD_none]

theorem den_leaf (g : Graph) (d : DenCfg) (n : Nat) (he : (g.node n).edge = none) (hu : g.usedInputs.contains n = false) :
    den g d n = ⟨.error .internal, .error .internal⟩ := by
  cases hn : g.nodes[n]? with
  | none => exact den_absent g d n hn
  | some nd => exact den_noEdge g d hn hu (node_eq_of_getElem? hn ▸ he)

theorem den_cases (g : Graph) (d : DenCfg) (n : Nat) :
    den g d n = ⟨.error .internal, .error .internal⟩ ∨
    g.nodes[n]? = some (g.node n) ∧
      ((g.usedInputs.contains n = true ∧ ∃ v, d.env (g.node n).name = some v ∧ den g d n = ⟨.ok (.leaf v, .none), .ok v⟩) ∨
       (g.usedInputs.contains n = false ∧ ∃ e, (g.node n).edge = some e)) := by
  cases hn : g.nodes[n]? with
  | none => exact .inl (den_absent g d n hn)
  | some nd =>
    rw [node_eq_of_getElem? hn]
    cases hu : g.usedInputs.contains n with
    | true =>
      rw [den_usedInput g d hn hu]
      cases d.env nd.name with
      | none => exact .inl rfl
      | some v => exact .inr ⟨rfl, .inl ⟨rfl, v, rfl, rfl⟩⟩
    | false =>
      cases he : nd.edge with
      | none => exact .inl (den_noEdge g d hn hu he)
      | some e => exact .inr ⟨rfl, .inr ⟨rfl, e, rfl⟩⟩

theorem vden_eq (g : Graph) (d : DenCfg) (h : g.output < g.nodes.length) : vden g d = (den g d g.output).v := by
  have hlen := denAll_length g d
  simp only [vden, den, List.getD_eq_getElem?_getD, List.getElem?_eq_getElem (show g.output < (denAll g d).length by omega),
    Option.getD_some]

theorem hden_eq (g : Graph) (d : DenCfg) (h : g.output < g.nodes.length) : hden g d = (den g d g.output).h.map (·.1) := by
  have hlen := denAll_length g d
  simp only [hden, den, List.getD_eq_getElem?_getD, List.getElem?_eq_getElem (show g.output < (denAll g d).length by omega),
    Option.getD_some]

/-! ### `DenCfg.call` -/

theorem call_pure (d : DenCfg) (n : Nat) (f : String) (pos : List Val) (kwn : List String) (kwv : List Val)
    (h1 : (d.constFns.find? (·.1 == f)).isNone = true) (h2 : d.impureFns.contains f = false) :
    d.call n f pos kwn kwv = .app f pos kwn kwv := by
  rw [DenCfg.call, Option.isNone_iff_eq_none.1 h1, h2]
  rfl

/-- `d.call n` depends on the node index `n` only through impure functions (`.imp f d.callNo n …`, CM.Model.Denote). -/
theorem call_pure_idx (d : DenCfg) (h : d.impureFns = []) (n m : Nat) : d.call n = d.call m := by
  funext f pos kwn kwv
  unfold DenCfg.call
  rw [h]
  rfl

end CM
