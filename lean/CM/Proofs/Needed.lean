/-
  CM.Proofs.Needed — only what is needed runs: every user-function call the machine logs was made on behalf of a
  node whose generator the cache-free evaluation of the requested output demands (`Need`).  Unselected branches of
  the switch edges are not demanded (`switch_hash_deps`, `switch_eval_deps` in CM.Proofs.Deps), hence never executed;
  with caches the machine executes a subset.
-/
import CM.Proofs.CacheCorrect
namespace CM

/-- every logged call was made for a needed node -/
def LogOK (g : Graph) (d : DenCfg) (root : Bool × Nat) (m : Mem) : Prop :=
  ∀ r ∈ m.world.log, ∃ hp, Need g d root hp r.node

/-- every generator the requests `qs` of node `n` address is needed -/
def DepsNeeded (g : Graph) (d : DenCfg) (root : Bool × Nat) (n : Nat) (qs : List Dep) : Prop :=
  ∀ q ∈ qs, ∀ hp' n', depTarget g n q = some (hp', n') → Need g d root hp' n'

/-- the task is demanded, and so is whatever its program will ask for -/
def PreN (g : Graph) (d : DenCfg) (root : Bool × Nat) : Task → Prop
  | .hash n => Need g d root true n
  | .value n => Need g d root false n
  | .prog n p => (∃ hp, Need g d root hp n) ∧ DepsNeeded g d root n (progDeps (ctxOf g d n) p)
  | .req n r => (∃ hp, Need g d root hp n) ∧ DepsNeeded g d root n (reqDeps r)
  | .reqs n rs _ => (∃ hp, Need g d root hp n) ∧ DepsNeeded g d root n (reqsDeps rs)

theorem logOK_world {g : Graph} {d : DenCfg} {root : Bool × Nat} {m m' : Mem} (h : m'.world.log = m.world.log)
    (hl : LogOK g d root m) : LogOK g d root m' := by
  intro r hr; rw [h] at hr; exact hl r hr

section
variable {g : Graph} {d : DenCfg} {root : Bool × Nat} {n : Nat}

theorem Need.genProg {e : EdgeK} {hp : Bool} (h : Need g d root hp n) (he : (g.node n).edge = some e) :
    PreN g d root (.prog n (genProg g n e hp)) :=
  ⟨⟨hp, h⟩, fun q hq hp' n' ht => .step hp n e q hp' n' h he hq ht⟩

/-- a program that has yielded `r` (after its cache operations: a hit only shortens what it asks for) -/
theorem PreN.progReq {F : Fam} {p : Prog} {r : Req} {k : Item → Prog} {w w' : World} (h : PreN g d root (.prog n p))
    (hp : CacheOK F g d n p) (hr : runEffs p w = (.req r k, w')) :
    PreN g d root (.req n r) ∧ ∀ y, interpReq (ctxOf g d n) r = .ok y → PreN g d root (.prog n (k y)) := by
  have hdp := runEffs_deps hp w
  rw [hr] at hdp
  have hd' : DepsNeeded g d root n (progDeps (ctxOf g d n) (.req r k)) := fun q hq => h.2 q (hdp q hq)
  exact ⟨⟨h.1, fun q hq => hd' q (by simp only [progDeps, List.mem_append]; exact .inl hq)⟩,
    fun y hy => ⟨h.1, fun q hq => hd' q (by simp only [progDeps, hy, List.mem_append]; exact .inr hq)⟩⟩

theorem PreN.parentHash {i p : Nat} (h : PreN g d root (.req n (.parentHash i))) (hp : (g.parents n)[i]? = some p) :
    Need g d root true p := h.2 (.ph i) (by simp [reqDeps]) true p (by simp [depTarget, hp])

theorem PreN.parentValue {i p : Nat} (h : PreN g d root (.req n (.parentValue i))) (hp : (g.parents n)[i]? = some p) :
    Need g d root false p := h.2 (.pv i) (by simp [reqDeps]) false p (by simp [depTarget, hp])

theorem PreN.current {r : Req} (h : PreN g d root (.req n r)) (hr : r = .currentHash ∨ r = .payload) : Need g d root true n :=
  h.2 .cur (by rcases hr with rfl | rfl <;> simp [reqDeps]) true n rfl

theorem PreN.await {rs : List Req} (h : PreN g d root (.req n (.await rs))) : PreN g d root (.reqs n rs.reverse []) :=
  ⟨h.1, fun q hq => h.2 q (by simp only [reqDeps]; exact (mem_reqsDeps_reverse rs q).mp hq)⟩

theorem PreN.reqsHead {r : Req} {rs : List Req} {acc : List Item} (h : PreN g d root (.reqs n (r :: rs) acc)) : PreN g d root (.req n r) :=
  ⟨h.1, fun q hq => h.2 q (by simp only [reqsDeps, List.mem_append]; exact .inl hq)⟩

theorem PreN.reqsTail {r : Req} {rs : List Req} {acc acc' : List Item} (h : PreN g d root (.reqs n (r :: rs) acc)) :
    PreN g d root (.reqs n rs acc') :=
  ⟨h.1, fun q hq => h.2 q (by simp only [reqsDeps, List.mem_append]; exact .inr hq)⟩

theorem LogOK.call {m : Mem} {fn : String} {pos : List Val} {kwn : List String} {kwv : List Val} {rv : Except Err Val} {w : World}
    (hl : LogOK g d root m) (hn : ∃ hp, Need g d root hp n) (hc : m.world.call n fn pos kwn kwv = (rv, w)) :
    LogOK g d root { m with world := w } := by
  obtain rfl := call_world hc
  intro r hr
  simp only [List.mem_cons] at hr
  rcases hr with rfl | hr
  · exact hn
  · exact hl r hr

end

section
variable {F : Fam} {g : Graph} {d : DenCfg} {root : Bool × Nat} (ok : GraphOKC g) (hF : g.HasCache → F g d)
include ok hF

theorem Returns.needed {t : Task} {m : Mem} {x : Item} {m' : Mem} (h : Returns g t m x m') :
    MemSound g d m → StoreSound F m.world → TaskOKC F g d t → LogOK g d root m → PreN g d root t → LogOK g d root m' := by
  induction h with
  | hashHit | valueHit | reqsNil => exact fun _ _ _ hl _ => hl
  | hashRun _ he _ _ _ ih => exact fun hs hw _ hl hn => ih hs hw (genProg_cacheOK ok hF he true) hl (Need.genProg hn he)
  | valueRun _ he _ _ _ ih => exact fun hs hw _ hl hn => ih hs hw (genProg_cacheOK ok hF he false) hl (Need.genProg hn he)
  | progRet hr => exact fun _ _ _ hl _ => logOK_world (runEffs_log hr) hl
  | @progReq n p m r k w y _ _ _ hr hy _ ihr ihk =>
    intro hs hw hp hl hn
    obtain ⟨hc', _, hs', hw', hlg⟩ := CacheOK.head (n := n) hp hs hw hr
    obtain ⟨hnr, hnk⟩ := hn.progReq hp hr
    obtain ⟨⟨hs1, hw1⟩, hr1⟩ := hy.sound ok hF hs' hw' trivial
    cases hc' with
    | req _ _ hk => exact ihk hs1 hw1 (hk y hr1) (ihr hs' hw' trivial (logOK_world hlg hl) hnr) (hnk y hr1)
  | parentHash hp _ ih => exact fun hs hw _ hl hn => ih hs hw trivial hl (hn.parentHash hp)
  | parentValue hp _ ih => exact fun hs hw _ hl hn => ih hs hw trivial hl (hn.parentValue hp)
  | currentHash _ ih => exact fun hs hw _ hl hn => ih hs hw trivial hl (hn.current (.inl rfl))
  | payload _ ih => exact fun hs hw _ hl hn => ih hs hw trivial hl (hn.current (.inr rfl))
  | await _ ih => exact fun hs hw _ hl hn => ih hs hw trivial hl hn.await
  | call hc => exact fun _ _ _ hl hn => hl.call hn.1 hc
  | reqsCons hy _ ihr ihk =>
    intro hs hw _ hl hn
    obtain ⟨⟨hs1, hw1⟩, _⟩ := hy.sound ok hF hs hw trivial
    exact ihk hs1 hw1 trivial (ihr hs hw trivial hl hn.reqsHead) hn.reqsTail

theorem Throws.needed {t : Task} {m : Mem} {e : Err} {m' : Mem} (h : Throws g t m e m') :
    MemSound g d m → StoreSound F m.world → TaskOKC F g d t → LogOK g d root m → PreN g d root t → LogOK g d root m' := by
  induction h with
  | hashLeaf | valueLeaf | noParent => exact fun _ _ _ hl _ => hl
  | hashProg _ he _ ih => exact fun hs hw _ hl hn => ih hs hw (genProg_cacheOK ok hF he true) hl (Need.genProg hn he)
  | hashStore _ he hr _ => exact fun hs hw _ hl hn => hr.needed ok hF hs hw (genProg_cacheOK ok hF he true) hl (Need.genProg hn he)
  | valueProg _ he _ ih => exact fun hs hw _ hl hn => ih hs hw (genProg_cacheOK ok hF he false) hl (Need.genProg hn he)
  | valueStore _ he hr _ => exact fun hs hw _ hl hn => hr.needed ok hF hs hw (genProg_cacheOK ok hF he false) hl (Need.genProg hn he)
  | progEvict hr _ | progRaise hr => exact fun _ _ _ hl _ => logOK_world (runEffs_log hr) hl
  | @progReq n p m r k w _ _ hr _ ih =>
    intro hs hw hp hl hn
    obtain ⟨_, _, hs', hw', hlg⟩ := CacheOK.head (n := n) hp hs hw hr
    exact ih hs' hw' trivial (logOK_world hlg hl) (hn.progReq hp hr).1
  | @progCont n p m r k w y _ _ _ hr hy _ ih =>
    intro hs hw hp hl hn
    obtain ⟨hc', _, hs', hw', hlg⟩ := CacheOK.head (n := n) hp hs hw hr
    obtain ⟨hnr, hnk⟩ := hn.progReq hp hr
    obtain ⟨⟨hs1, hw1⟩, hr1⟩ := hy.sound ok hF hs' hw' trivial
    cases hc' with
    | req _ _ hk => exact ih hs1 hw1 (hk y hr1) (hy.needed ok hF hs' hw' trivial (logOK_world hlg hl) hnr) (hnk y hr1)
  | parentHash hp _ ih => exact fun hs hw _ hl hn => ih hs hw trivial hl (hn.parentHash hp)
  | parentHashBad hp hr _ => exact fun hs hw _ hl hn => hr.needed ok hF hs hw trivial hl (hn.parentHash hp)
  | parentValue hp _ ih => exact fun hs hw _ hl hn => ih hs hw trivial hl (hn.parentValue hp)
  | current hr _ ih => exact fun hs hw _ hl hn => ih hs hw trivial hl (hn.current hr)
  | currentBad hr hret _ => exact fun hs hw _ hl hn => hret.needed ok hF hs hw trivial hl (hn.current hr)
  | await _ ih => exact fun hs hw _ hl hn => ih hs hw trivial hl hn.await
  | call hc => exact fun _ _ _ hl hn => hl.call hn.1 hc
  | reqsHead _ ih => exact fun hs hw _ hl hn => ih hs hw trivial hl hn.reqsHead
  | reqsTail hy _ ih =>
    intro hs hw _ hl hn
    obtain ⟨⟨hs1, hw1⟩, _⟩ := hy.sound ok hF hs hw trivial
    exact ih hs1 hw1 trivial (hy.needed ok hF hs hw trivial hl hn.reqsHead) hn.reqsTail

end

/-- **Only what is needed runs.**  Every call logged by a call of the compiled function — returning or raising, with
or without cache edges — was made on behalf of a node one of whose generators the cache-free evaluation of the output
demands; the log the call starts with may hold any calls of that kind. -/
theorem call_needed (F : Fam) (g : Graph) (ok : GraphOKC g) (env : String → Option Val) (w : World) (hc : CallOK g env)
    (hF : g.HasCache → F g (denCfgOf env w)) (hst : StoreSound F w)
    (hlog : ∀ r ∈ w.log, ∃ hp, Need g (denCfgOf env w) (false, g.output) hp r.node) (fuel steps : Nat) (o : Outcome)
    (hrun : g.call env w fuel = some (o, steps)) :
    ∀ r ∈ o.mem.world.log, ∃ hp, Need g (denCfgOf env w) (false, g.output) hp r.node := by
  have hms := init_memSound g env w hc
  rcases call_deriv ok hrun with ⟨x, m', rfl, hd⟩ | ⟨e, s', rfl, hd⟩
  · exact hd.needed ok hF hms hst trivial hlog .root
  · exact hd.needed ok hF hms hst trivial hlog .root

end CM
