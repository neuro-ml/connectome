/-
  CM.Proofs.TermDen — the denotation of a term: a node term denotes what its edge denotes over the denotations of the
  arguments (`BTerm.den_node`); identity edges are transparent.
-/
import CM.Proofs.BagDen
import CM.Proofs.EdgeSem
namespace CM

theorem denList_eq_map (d : DenCfg) : ∀ ts : List BTerm, BTerm.denList d ts = ts.map (·.den d)
  | [] => rfl
  | t :: ts => by rw [BTerm.denList, denList_eq_map d ts, List.map_cons]

theorem denList_length (d : DenCfg) : ∀ (ts : List BTerm), (BTerm.denList d ts).length = ts.length := fun ts => by
  rw [denList_eq_map, List.length_map]

theorem denList_getElem? (d : DenCfg) (ts : List BTerm) (j : Nat) : (BTerm.denList d ts)[j]? = ts[j]?.map (·.den d) := by
  rw [denList_eq_map, List.getElem?_map]

theorem BTerm.den_inp {d : DenCfg} {x : String} {v : Val} (h : d.env x = some v) :
    (BTerm.inp x).den d = ⟨.ok (.leaf v, .none), .ok v⟩ := by
  rw [BTerm.den, h]

theorem BTerm.den_node (d : DenCfg) (e : EdgeK) (args : List BTerm) :
    (BTerm.node e args).den d = e.den (d.call 0) (BTerm.denList d args) := by
  simp only [BTerm.den, EdgeK.den, denList_length]
  rfl

/-- an edge sees of its arguments the hashes (without payload) and the values only -/
theorem EdgeK.den_congr (e : EdgeK) (call : String → List Val → List String → List Val → Val) {α β : Type} (f : α → Den)
    (g : β → Den) {xs : List α} {ys : List β} (hl : xs.length = ys.length) (h : ∀ q ∈ xs.zip ys, DenEq (f q.1) (g q.2)) :
    e.den call (xs.map f) = e.den call (ys.map g) := by
  have hc : argCtx call (xs.map f) = argCtx call (ys.map g) := by
    have hj : ∀ j : Nat, (xs[j]? = none ∧ ys[j]? = none) ∨ ∃ x y, xs[j]? = some x ∧ ys[j]? = some y ∧ DenEq (f x) (g y) := by
      intro j
      cases h1 : xs[j]? with
      | none => exact .inl ⟨rfl, List.getElem?_eq_none (hl ▸ List.getElem?_eq_none_iff.1 h1)⟩
      | some x =>
        have hlt : j < ys.length := hl ▸ (List.getElem?_eq_some_iff.1 h1).1
        exact .inr ⟨x, ys[j], rfl, List.getElem?_eq_getElem hlt,
          h (x, ys[j]) (List.mem_of_getElem? (List.getElem?_zip_eq_some.2 ⟨h1, List.getElem?_eq_getElem hlt⟩))⟩
    funext cur
    simp only [argCtx, List.getElem?_map]
    -- the fields `ph` and `pv` of the context, each at a position beyond both lists (nothing left) or inside both
    congr 1 <;> funext j <;> rcases hj j with ⟨h1, h2⟩ | ⟨x, y, h1, h2, hxy⟩ <;> simp only [h1, h2, Option.map]
    · exact hxy.1
    · exact hxy.2
  simp only [EdgeK.den, hc, List.length_map, hl]

theorem DenEq.refl (a : Den) : DenEq a a := ⟨rfl, rfl⟩

theorem denEq_trans {a b c : Den} (h1 : DenEq a b) (h2 : DenEq b c) : DenEq a c :=
  ⟨h1.1.trans h2.1, h1.2.trans h2.2⟩

theorem identity_den (call : String → List Val → List String → List Val → Val) (x : Den) :
    DenEq (EdgeK.identity.den call [x]) x := by
  simp only [DenEq, EdgeK.den, List.length_singleton, interp_identity_hash, evalProg_identity]
  simp only [argCtx, List.getElem?_cons_zero]
  exact ⟨by cases x.h <;> rfl, by cases x.v <;> rfl⟩

end CM
