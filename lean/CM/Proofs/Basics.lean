/-
  CM.Proofs.Basics — facts about `Except` and lists that do not depend on the model: reading a returning `do` block step by step
  (a bind, a guard written `if c then .error e else …`, a guard as `do` compiles `if c then throw e`), injectivity on lists
  without repeated images, positions of members (`idxOf`, `zipIdx`), two lists of the same length zipped with a third
  (the form in which `BDen` and `Glue` relate the inputs of an edge to their terms), and two facts about `take` and `filterMap`.
-/
namespace CM

/-! ### a returning `do` block of `Except`, one lemma for each kind of step -/

theorem bind_eq_ok {ε α β : Type} {x : Except ε α} {k : α → Except ε β} {b : β} :
    (x >>= k) = .ok b ↔ ∃ a, x = .ok a ∧ k a = .ok b := by
  cases x <;> simp [bind, Except.bind]

theorem of_guard_ok {ε α : Type} {c : Prop} [Decidable c] {e : ε} {x : Except ε α} {a : α}
    (h : (if c then .error e else x) = .ok a) : ¬ c ∧ x = .ok a := by
  split at h
  · cases h
  · exact ⟨‹_›, h⟩

/-- `if c then throw e` followed by the rest `k` of the block, as `do` compiles it -/
theorem guard_bind_ok {ε α : Type} {c : Bool} {e : ε} {k : Unit → Except ε α} {a : α} :
    (if c = true then (throw e : Except ε Unit) >>= k else k ()) = .ok a ↔ c = false ∧ k () = .ok a := by
  cases c
  · simp
  · simp [bind, Except.bind, throw, throwThe, MonadExceptOf.throw]

theorem guard_ok {ε : Type} {c : Bool} {e : ε} :
    (if c = true then (throw e : Except ε Unit) else pure ()) = .ok () ↔ c = false := by
  cases c
  · simp [pure, Except.pure]
  · simp [throw, throwThe, MonadExceptOf.throw]

theorem map_eq_ok {ε α β : Type} {f : α → β} {r : Except ε α} {b : β} (h : r.map f = .ok b) :
    ∃ a, r = .ok a ∧ f a = b := by
  cases r with
  | error e => cases h
  | ok a => exact ⟨a, rfl, Except.ok.inj h⟩

/-! ### lists without repetitions -/

theorem inj_of_nodup_map {α β : Type} {f : α → β} {xs : List α} (h : (xs.map f).Nodup) :
    ∀ a ∈ xs, ∀ b ∈ xs, f a = f b → a = b := by
  have hp : xs.Pairwise (fun a b => f a = f b → a = b) := (List.pairwise_map.mp h).imp fun h e => absurd e h
  exact fun a ha b hb => List.Pairwise.forall_of_forall_of_flip (fun _ _ _ => rfl) hp (hp.imp fun h e => (h e.symm).symm) ha hb

theorem nodup_snoc {α : Type} {l : List α} {a : α} (hn : l.Nodup) (ha : a ∉ l) : (l ++ [a]).Nodup := by
  refine List.nodup_append.mpr ⟨hn, by simp, fun b hb c hc hbc => ha ?_⟩
  rwa [← List.mem_singleton.mp hc, ← hbc]

/-! ### positions of members -/

theorem idxOf_inj {α : Type} [BEq α] [LawfulBEq α] {l : List α} {a c : α} (ha : a ∈ l) (h : l.idxOf a = l.idxOf c) : a = c := by
  have hlt := List.idxOf_lt_length_iff.2 ha
  have h1 := List.getElem_idxOf hlt
  simp only [h] at h1
  exact h1.symm.trans (List.getElem_idxOf (h ▸ hlt))

theorem idxOf_lt_of_mem_take {α : Type} [BEq α] [LawfulBEq α] {l : List α} {a : α} {i : Nat} (h : a ∈ l.take i) :
    l.idxOf a < i := by
  have h1 : l.idxOf a = (l.take i).idxOf a := by
    conv => lhs; rw [← List.take_append_drop i l, List.idxOf_append, if_pos h]
  have := List.idxOf_lt_length_iff.2 h
  have := List.length_take_le i l
  omega

theorem getElem?_map_idxOf {α β γ : Type} [BEq β] [LawfulBEq β] {l : List α} (f : α → β) (g : α → γ)
    (hinj : ∀ x ∈ l, ∀ y ∈ l, f x = f y → x = y) {a : α} (ha : a ∈ l) :
    (l.map g)[(l.map f).idxOf (f a)]? = some (g a) := by
  have hlt : (l.map f).idxOf (f a) < (l.map f).length := List.idxOf_lt_length_iff.2 (List.mem_map_of_mem ha)
  have hk := List.getElem_idxOf hlt
  rw [List.length_map] at hlt
  rw [List.getElem_map] at hk
  rw [List.getElem?_map, List.getElem?_eq_getElem hlt, Option.map_some, hinj _ (List.getElem_mem hlt) a ha hk]

/-! ### two lists of the same length, zipped -/

theorem exists_zip_left {α β : Type} {xs : List α} {ys : List β} (hl : xs.length = ys.length) {x : α} (hx : x ∈ xs) :
    ∃ y, (x, y) ∈ xs.zip ys := by
  obtain ⟨i, hi, rfl⟩ := List.getElem_of_mem hx
  have hi' : i < ys.length := hl ▸ hi
  exact ⟨ys[i], List.mem_of_getElem? (List.getElem?_zip_eq_some.2 ⟨List.getElem?_eq_getElem hi, List.getElem?_eq_getElem hi'⟩)⟩

theorem exists_zip_right {α β : Type} {xs : List α} {ys : List β} (hl : xs.length = ys.length) {y : β} (hy : y ∈ ys) :
    ∃ x, (x, y) ∈ xs.zip ys := by
  obtain ⟨i, hi, rfl⟩ := List.getElem_of_mem hy
  have hi' : i < xs.length := hl ▸ hi
  exact ⟨xs[i], List.mem_of_getElem? (List.getElem?_zip_eq_some.2 ⟨List.getElem?_eq_getElem hi', List.getElem?_eq_getElem hi⟩)⟩

theorem zip_unique {α β : Type} (R : α → β → Prop) :
    ∀ (ns : List α) (ts₁ ts₂ : List β), ns.length = ts₁.length → ns.length = ts₂.length →
      (∀ p ∈ ns.zip ts₁, ∀ t', R p.1 t' → p.2 = t') → (∀ p ∈ ns.zip ts₂, R p.1 p.2) → ts₁ = ts₂
  | [], [], [], _, _, _, _ => rfl
  | n :: ns, t₁ :: ts₁, t₂ :: ts₂, h₁, h₂, hu, hr => by
    obtain ⟨hu0, hu⟩ := List.forall_mem_cons.1 hu
    obtain ⟨hr0, hr⟩ := List.forall_mem_cons.1 hr
    exact congr (congrArg _ (hu0 t₂ hr0)) (zip_unique R ns ts₁ ts₂ (Nat.succ.inj h₁) (Nat.succ.inj h₂) hu hr)

theorem zip_choice {α β γ : Type} (P : α → β → Prop) (Q : β → γ → Prop) :
    ∀ (ns : List α) (ts : List γ), ns.length = ts.length →
      (∀ p ∈ ns.zip ts, ∃ t0, P p.1 t0 ∧ Q t0 p.2) →
      ∃ ts0 : List β, ns.length = ts0.length ∧ (∀ p ∈ ns.zip ts0, P p.1 p.2) ∧ (∀ q ∈ ts0.zip ts, Q q.1 q.2)
  | [], [], _, _ => ⟨[], rfl, nofun, nofun⟩
  | n :: ns, t :: ts, h, hp => by
    obtain ⟨⟨t0, hP, hQ⟩, hp⟩ := List.forall_mem_cons.1 hp
    obtain ⟨ts0, hl, h1, h2⟩ := zip_choice P Q ns ts (Nat.succ.inj h) hp
    exact ⟨t0 :: ts0, congrArg (· + 1) hl, List.forall_mem_cons.2 ⟨hP, h1⟩, List.forall_mem_cons.2 ⟨hQ, h2⟩⟩

theorem zip_mid {α β γ : Type} :
    ∀ (ns : List α) (ts0 : List β) (ts : List γ), ns.length = ts0.length → ts0.length = ts.length →
      ∀ q ∈ ns.zip ts, ∃ t0, (q.1, t0) ∈ ns.zip ts0 ∧ (t0, q.2) ∈ ts0.zip ts
  | n :: ns, t0 :: ts0, t :: ts, h1, h2, q, hq => by
    rcases List.mem_cons.1 hq with rfl | hq
    · exact ⟨t0, List.mem_cons_self .., List.mem_cons_self ..⟩
    · obtain ⟨u, hu1, hu2⟩ := zip_mid ns ts0 ts (Nat.succ.inj h1) (Nat.succ.inj h2) q hq
      exact ⟨u, List.mem_cons_of_mem _ hu1, List.mem_cons_of_mem _ hu2⟩

/-! ### `zipIdx`, `take`, `filterMap` -/

theorem mem_map_zipIdx {α β : Type} {g : α × Nat → β} {xs : List α} {y : β} :
    y ∈ xs.zipIdx.map g ↔ ∃ i x, xs[i]? = some x ∧ y = g (x, i) := by
  simp only [List.mem_map, List.mem_zipIdx_iff_getElem?, Prod.exists]
  exact ⟨fun ⟨x, i, hx, e⟩ => ⟨i, x, hx, e.symm⟩, fun ⟨i, x, hx, e⟩ => ⟨x, i, hx, e.symm⟩⟩

theorem sum_take_le (xs : List Nat) (k : Nat) : (xs.take k).sum ≤ xs.sum := by
  conv => rhs; rw [← List.take_append_drop k xs, List.sum_append]
  exact Nat.le_add_right ..

theorem filterMap_map_some {α β : Type} (f : α → Option β) : ∀ (L : List α), (∀ a ∈ L, (f a).isSome = true) →
    (L.filterMap f).map some = L.map f
  | [], _ => rfl
  | a :: L, h => by
    obtain ⟨y, hy⟩ := Option.isSome_iff_exists.1 (h a (by simp))
    simp only [List.filterMap_cons, hy, List.map_cons, filterMap_map_some f L fun a' ha' => h a' (List.mem_cons_of_mem _ ha')]

end CM
