/-
  CM.Proofs.Once — stage 3 of `vm_correct` (DESIGN.md §4), the notions of the log bound: every node calls its user function at most once per call of
  the compiled function.  The counter invariant of CM.Proofs.Count is carried together with a bound on the call log:
  for every node, the number of logged calls made on its behalf is at most what its *completed* generators may
  have issued (`cap`), and a running generator never exceeds the budget of its program (`Prog.CallsLe`).  `PreL` /
  `PostL` say this of a task, with the lemmas that hand the budget from a task to its sub-tasks.
-/
import CM.Proofs.Count
import CM.Proofs.WorldFrame
import CM.Proofs.ProgLemmas
namespace CM

/-- calls made on behalf of node `j`, as logged -/
def calls (m : Mem) (j : Nat) : Nat := (m.world.log.filter (fun c => c.node == j)).length

/-- the user calls the hash generator (`hb`) and the value generator (`vb`) of node `j` may issue -/
def Graph.hb (g : Graph) (j : Nat) : Nat := match (g.node j).edge with | some e => e.hashCalls | none => 0
def Graph.vb (g : Graph) (j : Nat) : Nat := match (g.node j).edge with | some e => e.evalCalls | none => 0

/-- what the completed generators of `j` may have called -/
def cap (g : Graph) (G : Ghost) (j : Nat) : Nat := b2n (G.dH j) * g.hb j + b2n (G.dV j) * g.vb j

/-- below `bound`, every node has called at most what its completed generators may have called -/
def LInv (g : Graph) (m : Mem) (G : Ghost) (bound : Nat) : Prop := ∀ j, j < bound → calls m j ≤ cap g G j

/-- what the generators of `j` that have not completed may still call -/
def pendH (g : Graph) (G : Ghost) (j : Nat) : Nat := b2n (!G.dH j) * g.hb j
def pendV (g : Graph) (G : Ghost) (j : Nat) : Nat := b2n (!G.dV j) * g.vb j
/-- a value generator may still trigger the hash generator of its own node -/
def pend (g : Graph) (G : Ghost) (hp : Bool) (n : Nat) : Nat := if hp then 0 else pendH g G n

def Task.node : Task → Nat
  | .hash n | .value n | .prog n _ | .req n _ | .reqs n _ _ => n

/-- calls the task may still issue on behalf of its own node -/
def cost (g : Graph) (G : Ghost) (hp : Bool) (b : Nat) : Task → Nat
  | .hash n => pendH g G n
  | .value n => pendV g G n + pendH g G n
  | .prog n _ => pend g G hp n + b
  | .req n r => pend g G hp n + r.ncalls
  | .reqs n rs _ => pend g G hp n + Req.ncallsList rs

/-- calls that may still follow on behalf of the task's node once the task has returned -/
def rest (g : Graph) (G : Ghost) (hp : Bool) : Task → Nat
  | .hash n => pendH g G n
  | .value n => pendV g G n + pendH g G n
  | .prog n _ | .req n _ | .reqs n _ _ => pend g G hp n

/-- the budget `b` of a task is that of its program -/
def budOK (b : Nat) : Task → Prop
  | .prog _ p => p.CallsLe b
  | _ => True

/-- the log bound a task starts with.  `K`: the allowance of the task's node for the whole call (1 in the end); `b`: the calls the
program of the task may issue (`budOK`; for other tasks the cost is read off the task); `B`: calls reserved for what the enclosing
generator does after this task.  What is logged for the node, what the task may cost and the reserve fit into `K`; below the node the
bound `LInv` holds. -/
structure PreL (g : Graph) (m : Mem) (G : Ghost) (hp : Bool) (b B K : Nat) (t : Task) : Prop where
  inv : LInv g m G t.node
  bud : calls m t.node + (cost g G hp b t + B) ≤ K
  prog : budOK b t

/-- the log bound a returning task leaves: the reserve `B` is still there, and nothing above the node was logged -/
structure PostL (g : Graph) (m m' : Mem) (G' : Ghost) (hp : Bool) (B K : Nat) (t : Task) : Prop where
  inv : LInv g m' G' t.node
  bud : calls m' t.node + (rest g G' hp t + B) ≤ K
  frame : ∀ j, t.node < j → calls m' j = calls m j

theorem calls_call {m : Mem} {n : Nat} {fn : String} {pos : List Val} {kwn : List String} {kwv : List Val} {r : Except Err Val}
    {w : World} (hc : m.world.call n fn pos kwn kwv = (r, w)) (j : Nat) :
    calls { m with world := w } j = calls m j + (if n = j then 1 else 0) := by
  obtain rfl := call_world hc
  simp only [calls, List.filter_cons]
  by_cases hnj : n = j
  · simp [hnj]
  · simp [hnj]

/-- what the completed and the pending hash generator of `j` may call: together, the calls of the hash program -/
theorem capH_add_pendH (g : Graph) (G : Ghost) (j : Nat) : b2n (G.dH j) * g.hb j + pendH g G j = g.hb j := by
  cases h : G.dH j <;> simp [pendH, b2n, h]

theorem capV_add_pendV (g : Graph) (G : Ghost) (j : Nat) : b2n (G.dV j) * g.vb j + pendV g G j = g.vb j := by
  cases h : G.dV j <;> simp [pendV, b2n, h]

theorem cap_after_hash (g : Graph) (G G1 : Ghost) (p c c1 : Nat) (hV : G1.dV p = G.dV p) (h0 : c ≤ cap g G p)
    (h1 : c1 + pendH g G1 p ≤ c + pendH g G p) : c1 ≤ cap g G1 p := by
  have := capH_add_pendH g G p
  have := capH_add_pendH g G1 p
  unfold cap at *
  rw [hV]
  omega

theorem cap_after_value (g : Graph) (G G1 : Ghost) (p c c1 : Nat) (h0 : c ≤ cap g G p)
    (h1 : c1 + (pendV g G1 p + pendH g G1 p) ≤ c + (pendV g G p + pendH g G p)) : c1 ≤ cap g G1 p := by
  have := capH_add_pendH g G p
  have := capH_add_pendH g G1 p
  have := capV_add_pendV g G p
  have := capV_add_pendV g G1 p
  unfold cap at *
  omega

theorem cap_frame (g : Graph) (G G1 : Ghost) (j : Nat) (h1 : G1.dH j = G.dH j) (h2 : G1.dV j = G.dV j) : cap g G1 j = cap g G j := by
  simp only [cap, h1, h2]

theorem pend_frame (g : Graph) (G G1 : Ghost) (hp : Bool) (n : Nat) (h : G1.dH n = G.dH n) : pend g G1 hp n = pend g G hp n := by
  simp only [pend, pendH, h]

theorem pendH_done (g : Graph) (G : Ghost) (n : Nat) (h : G.dH n = true) : pendH g G n = 0 := by simp [pendH, h, b2n]
theorem pendV_done (g : Graph) (G : Ghost) (n : Nat) (h : G.dV n = true) : pendV g G n = 0 := by simp [pendV, h, b2n]
theorem pendH_todo (g : Graph) (G : Ghost) (n : Nat) (h : G.dH n = false) : pendH g G n = g.hb n := by simp [pendH, h, b2n]
theorem pendV_todo (g : Graph) (G : Ghost) (n : Nat) (h : G.dV n = false) : pendV g G n = g.vb n := by simp [pendV, h, b2n]

/-! ### at most one call per node -/

theorem cap_pendVH_le_one (g : Graph) (hone : ∀ j, g.hb j + g.vb j ≤ 1) (G : Ghost) (j c : Nat) (h : c ≤ cap g G j) :
    c + (pendV g G j + pendH g G j) ≤ 1 := by
  have := hone j
  have := capH_add_pendH g G j
  have := capV_add_pendV g G j
  unfold cap at h
  omega

theorem cap_pendH_le_one (g : Graph) (hone : ∀ j, g.hb j + g.vb j ≤ 1) (G : Ghost) (j c : Nat) (h : c ≤ cap g G j) : c + pendH g G j ≤ 1 := by
  have := cap_pendVH_le_one g hone G j c h
  omega

theorem cap_le_one (g : Graph) (hone : ∀ j, g.hb j + g.vb j ≤ 1) (G : Ghost) (j : Nat) : cap g G j ≤ 1 := by
  have := cap_pendVH_le_one g hone G j _ (Nat.le_refl _)
  omega

theorem LInv.le_one {g : Graph} (hone : ∀ j, g.hb j + g.vb j ≤ 1) {m : Mem} {G : Ghost} {n : Nat} (hl : LInv g m G n)
    (hn : calls m n ≤ 1) : ∀ j, j ≤ n → calls m j ≤ 1 := by
  intro j hj
  by_cases h : j < n
  · exact Nat.le_trans (hl j h) (cap_le_one g hone G j)
  · obtain rfl : j = n := by omega
    exact hn

theorem pre_le_one (g : Graph) (hone : ∀ j, g.hb j + g.vb j ≤ 1) {m : Mem} {G : Ghost} {hp : Bool} {b B K : Nat} {t : Task}
    (hl : PreL g m G hp b B K t) (hK : K ≤ 1) : ∀ j, j ≤ t.node → calls m j ≤ 1 :=
  hl.inv.le_one hone (by have := hl.bud; omega)

theorem post_le_one (g : Graph) (hone : ∀ j, g.hb j + g.vb j ≤ 1) {m m' : Mem} {G' : Ghost} {hp : Bool} {B K : Nat} {t : Task}
    (hl : PostL g m m' G' hp B K t) (hK : K ≤ 1) : ∀ j, j ≤ t.node → calls m' j ≤ 1 :=
  hl.inv.le_one hone (by have := hl.bud; omega)

/-- what a raising task leaves in the log -/
def OnceErr (m m' : Mem) (n : Nat) : Prop := (∀ j, j ≤ n → calls m' j ≤ 1) ∧ (∀ j, n < j → calls m' j = calls m j)

theorem OnceErr.same (g : Graph) (hone : ∀ j, g.hb j + g.vb j ≤ 1) {m : Mem} {G : Ghost} {hp : Bool} {b B K : Nat} {t : Task}
    (hl : PreL g m G hp b B K t) (hK : K ≤ 1) (m' : Mem) (hc : ∀ j, calls m' j = calls m j) : OnceErr m m' t.node :=
  ⟨fun j hj => by rw [hc j]; exact pre_le_one g hone hl hK j hj, fun j _ => hc j⟩

theorem OnceErr.lift (g : Graph) (hone : ∀ j, g.hb j + g.vb j ≤ 1) {m m' : Mem} {G : Ghost} {hp : Bool} {b B K : Nat} {t : Task} {p : Nat}
    (hl : PreL g m G hp b B K t) (hK : K ≤ 1) (hlt : p < t.node) (h : OnceErr m m' p) : OnceErr m m' t.node := by
  refine ⟨fun j hj => ?_, fun j hj => h.2 j (by omega)⟩
  by_cases hjp : j ≤ p
  · exact h.1 j hjp
  · rw [h.2 j (by omega)]; exact pre_le_one g hone hl hK j hj

/-! ### the budget handed from a task to its sub-tasks -/

section
variable {g : Graph} {m : Mem} {G : Ghost} {hp : Bool} {b B K n : Nat}

theorem calls_of_log {m m' : Mem} (h : m'.world.log = m.world.log) (j : Nat) : calls m' j = calls m j := by simp only [calls, h]

theorem PreL.hashProg {e : EdgeK} (hl : PreL g m G hp b B K (.hash n)) (hd : G.dH n = false) (he : (g.node n).edge = some e)
    (hc : (e.hashProg (g.parents n).length).CallsLe e.hashCalls) :
    PreL g m G true e.hashCalls B K (.prog n (e.hashProg (g.parents n).length)) := by
  have hhb : g.hb n = e.hashCalls := by simp [Graph.hb, he]
  exact ⟨hl.inv, by have := hl.bud; simp only [cost, Task.node, pendH_todo g G n hd, hhb, pend] at this ⊢; simpa using this, hc⟩

theorem PreL.evalProg {e : EdgeK} (hl : PreL g m G hp b B K (.value n)) (hd : G.dV n = false) (he : (g.node n).edge = some e)
    (hc : (e.evalProg (g.parents n).length).CallsLe e.evalCalls) :
    PreL g m G false e.evalCalls B K (.prog n (e.evalProg (g.parents n).length)) := by
  have hvb : g.vb n = e.evalCalls := by simp [Graph.vb, he]
  refine ⟨hl.inv, ?_, hc⟩
  have := hl.bud
  simp only [cost, Task.node, pendV_todo g G n hd, hvb, pend, Bool.false_eq_true, ↓reduceIte] at this ⊢
  omega

/-- a parent starts with the budget its own pending generators need -/
theorem LInv.parentHash {p : Nat} (hl : LInv g m G n) (hlt : p < n) : PreL g m G hp 0 0 (calls m p + pendH g G p) (.hash p) :=
  ⟨fun j hj => hl j (by simp only [Task.node] at hj; omega), by simp [cost, Task.node], trivial⟩

theorem LInv.parentValue {p : Nat} (hl : LInv g m G n) (hlt : p < n) :
    PreL g m G hp 0 0 (calls m p + (pendV g G p + pendH g G p)) (.value p) :=
  ⟨fun j hj => hl j (by simp only [Task.node] at hj; omega), by simp [cost, Task.node], trivial⟩

/-- the request of `n` that asked for parent `p < n` is served: the log bound below `n` is restored, the budget of `n` is untouched -/
theorem PreL.afterParent {r : Req} {m1 : Mem} {G1 : Ghost} {p : Nat} (hl : PreL g m G hp b B K (.req n r)) (hr : r.ncalls = 0)
    (hlt : p < n) (fr : Frame p m G m1 G1) (fl : ∀ j, p < j → calls m1 j = calls m j) (inv1 : LInv g m1 G1 p)
    (hp1 : calls m1 p ≤ cap g G1 p) : PostL g m m1 G1 hp B K (.req n r) := by
  refine ⟨fun j hj => ?_, ?_, fun j hj => fl j (by simp only [Task.node] at hj; omega)⟩
  · by_cases h1 : j < p
    · exact inv1 j h1
    · by_cases h2 : j = p
      · subst h2; exact hp1
      · have hpj : p < j := by omega
        rw [fl j hpj, cap_frame g G G1 j (fr.dH j hpj) (fr.dV j hpj)]
        exact hl.inv j hj
  · have := hl.bud
    simp only [rest, cost, Task.node, hr] at this ⊢
    rw [fl n hlt, pend_frame g G G1 hp n (fr.dH n hlt)]
    omega

theorem PreL.current {r : Req} (hl : PreL g m G false b B K (.req n r)) (hr : r = .currentHash ∨ r = .payload) :
    PreL g m G false 0 B K (.hash n) := by
  refine ⟨hl.inv, ?_, trivial⟩
  have := hl.bud
  rcases hr with rfl | rfl <;> simpa [cost, Task.node, pend, Req.ncalls] using this

theorem PreL.await {rs : List Req} (hl : PreL g m G hp b B K (.req n (.await rs))) : PreL g m G hp 0 B K (.reqs n rs.reverse []) :=
  ⟨hl.inv, by simpa [cost, Task.node, Req.ncalls, ncallsList_reverse] using hl.bud, trivial⟩

theorem PreL.reqsHead {r : Req} {rs : List Req} {acc : List Item} (hl : PreL g m G hp b B K (.reqs n (r :: rs) acc)) :
    PreL g m G hp 0 (Req.ncallsList rs + B) K (.req n r) :=
  ⟨hl.inv, by have := hl.bud; simp only [cost, Task.node, Req.ncallsList] at this ⊢; omega, trivial⟩

theorem PostL.reqsTail {m' : Mem} {G' : Ghost} {r : Req} {rs : List Req} {acc : List Item}
    (pl : PostL g m m' G' hp (Req.ncallsList rs + B) K (.req n r)) : PreL g m' G' hp 0 B K (.reqs n rs acc) :=
  ⟨pl.inv, by have := pl.bud; simp only [rest, cost, Task.node] at this ⊢; omega, trivial⟩

/-- the budget of a program that has yielded request `r`: `r`'s share first, the rest for the continuation -/
theorem PreL.progReq {p : Prog} {r : Req} {k : Item → Prog} {w : World} (hl : PreL g m G hp b B K (.prog n p))
    (hr : runEffs p m.world = (.req r k, w)) :
    (∀ x, (k x).CallsLe (b - r.ncalls)) ∧ PreL g { m with world := w } G hp 0 ((b - r.ncalls) + B) K (.req n r) := by
  have hb := runEffs_callsLe hl.prog m.world
  rw [hr] at hb
  have hcalls := calls_of_log (m' := { m with world := w }) (m := m) (runEffs_log hr)
  cases hb with
  | req _ _ _ h1 h2 =>
    exact ⟨h2, fun j hj => by rw [hcalls]; exact hl.inv j hj,
      by have := hl.bud; simp only [cost, Task.node] at this ⊢; rw [hcalls]; omega, trivial⟩

theorem PostL.progCont {m0 m' : Mem} {G' : Ghost} {r : Req} {p : Prog} {c : Nat} (pl : PostL g m0 m' G' hp (c + B) K (.req n r))
    (hc : p.CallsLe c) : PreL g m' G' hp c B K (.prog n p) :=
  ⟨pl.inv, by have := pl.bud; simp only [rest, cost, Task.node] at this ⊢; omega, hc⟩

end

end CM
