/-
  CM.Proofs.BagCompileOK — every graph compiled from a checked bag satisfies the hypotheses of `vm_correct`.
-/
import CM.Proofs.Basics
import CM.Proofs.Sound
import CM.Proofs.CountLemmas
import CM.Proofs.BagStruct
import CM.Proofs.BagPeel
import CM.Proofs.BagCompile
namespace CM

theorem order_outs_nodup {b : Bag} (h : OutsNodup b.edges) : b.outs.Nodup := by
  have hn : (((peel b.edges.length b.edges).1 ++ (peel b.edges.length b.edges).2).map (·.out)).Nodup :=
    ((peel_perm b.edges.length b.edges).map _).nodup_iff.2 h
  rw [List.map_append, List.nodup_append] at hn
  exact hn.1

theorem idxOf_getElem_nodup {α : Type} [BEq α] [LawfulBEq α] (l : List α) (hn : l.Nodup) (j : Nat) (h : j < l.length) :
    l.idxOf l[j] = j :=
  hn.idxOf_getElem j h

section
variable {b : Bag} {o : BNode}

theorem compile_topo : ∀ (i : Nat) (nd : Node), (b.compileGraph o).nodes[i]? = some nd → ∀ p ∈ nd.parents, p < i := by
  intro i nd hnd p hp
  rcases nodes_getElem? hnd with ⟨n, _, rfl⟩ | ⟨k, e, rfl, he, rfl⟩
  · cases hp
  · obtain ⟨q, hq, rfl⟩ := List.mem_map.1 hp
    -- `q` is a leaf, or the output of an earlier edge of the order: one of the nodes listed before `e.out`
    refine idxOf_lt_of_mem_take (l := b.nodeList o) ?_
    rw [Bag.nodeList, List.take_length_add_append, List.mem_append, Bag.outs, ← List.map_take]
    rcases topoFrom_getElem? b.edges (topoEdges_topo b.edges) he q hq with hleaf | hs | ⟨e', he', ho⟩
    · exact .inl (leaf_of_no_edge (mem_nodeList.2 (.inl (mem_edgeNodes_in (order_sub b e (List.mem_of_getElem? he)) hq))) hleaf)
    · cases hs
    · exact .inr (List.mem_map.2 ⟨e', he', ho⟩)

/-- `hleaf` alone gives the structural half of `GraphOK`: the order of `compileGraph` is topological whatever the bag -/
theorem compile_base (hleaf : ∀ n ∈ b.inputs, ∀ e ∈ b.edges, e.out ≠ n) : GraphBase (b.compileGraph o) := by
  refine { topo := compile_topo, inputsLeaves := fun i nd hnd hu => ?_ }
  rw [usedInputs_contains, Bool.and_eq_true] at hu
  obtain ⟨n, hni, rfl⟩ := List.mem_map.1 (List.contains_iff_mem.1 hu.1)
  rw [node_of_leaf (leaf_of_no_edge (mem_nodeList.2 (.inr (.inl hni))) (hleaf n hni))] at hnd
  cases hnd
  rfl

theorem compile_ok (hleaf : ∀ n ∈ b.inputs, ∀ e ∈ b.edges, e.out ≠ n)
    (hwf : ∀ e ∈ b.edges, e.edge.wf = true) : GraphOK (b.compileGraph o) := by
  refine { toGraphBase := compile_base hleaf, wf := fun i nd e hnd he => ?_ }
  rcases nodes_getElem? hnd with ⟨n, _, rfl⟩ | ⟨_, e', _, he', rfl⟩
  · cases he
  · cases he
    exact hwf e' (order_sub b e' (List.mem_of_getElem? he'))

end
end CM
