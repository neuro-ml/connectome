/-
  CM.Proofs.BagConnect — the bag `connect_bags` builds from two well-formed bags with separate identities (`connected l r`).  Rule 3 adds
  nothing, so its edges are those of the two bags and three groups of identity edges: the stitches (`commonEdges`: a left output to the
  right input of its name); `lv`, the edges of `lvPart` ("left virtual": to each right input whose name the left bag lets through from
  upstream, from a fresh input of the whole); `rv`, the edges of `rvPart` (from each left output the right bag passes on - `passes`: the name
  is virtual on the right, or persistent on the left and not redefined - to a fresh output of the whole).  Where each group points; and the
  left frame: connecting a bag on the right changes nothing in the region of the left bag.
-/
import CM.Proofs.CoreWF
namespace CM

/-- the bag `connect_bags` builds, when none of the checks fires -/
def connected (l r : Bag) : Bag := (connectRaw l r).core

/-- does the connection pass the left field `x` on?  (`right.virtual | (left.persistent - right outputs)`) -/
def passes (l r : Bag) (x : String) : Bool :=
  r.virt.mem x || (l.persistent.contains x && !(names r.outputs).contains x)

theorem passes_iff {l r : Bag} {x : String} :
    passes l r x = true ↔ r.virt.mem x = true ∨ (x ∈ l.persistent ∧ x ∉ names r.outputs) := by
  simp only [passes, Bool.or_eq_true, Bool.and_eq_true, Bool.not_eq_true', List.contains_eq_mem, decide_eq_true_eq,
    decide_eq_false_iff_not]

theorem passes_of_output {l r : Bag} (hr : r.WF) {x : String} (hx : x ∈ names r.outputs) : passes l r x = false := by
  simp [passes, hr.virt_names hx, hx]

/-- two well-formed bags, the right one on identities above the left one's: the operands of `connect_bags` after `freeze` -/
structure Sep (l r : Bag) : Prop where
  wl : l.WF
  wr : r.WF
  lo : ∀ n ∈ r.nodes3, l.next ≤ n.id
  le : l.next ≤ r.next

/-- the identities of the right bag -/
def InR (l r : Bag) (n : BNode) : Prop := l.next ≤ n.id ∧ n.id < r.next

section
variable {l r : Bag}

theorem Sep.l_id (h : Sep l r) {n : BNode} (hn : n ∈ l.nodes3) : n.id < l.next := h.wl.ids n hn
theorem Sep.r_id (h : Sep l r) {n : BNode} (hn : n ∈ r.nodes3) : InR l r n := ⟨h.lo n hn, h.wr.ids n hn⟩

theorem mem_lvNodes {n : BNode} : n ∈ lvNodes l r ↔ n ∈ r.inputs ∧ l.virt.mem n.name = true := by
  simp [lvNodes]

theorem mem_rvNodes {n : BNode} : n ∈ rvNodes l r ↔ n ∈ l.outputs ∧ passes l r n.name = true := by
  simp [rvNodes, passes]

theorem lv_next : (lvPart l r).2.2 = r.next + (lvNodes l r).length := cloneEdges_next
theorem rv_next : (rvPart l r).2.2 = r.next + (lvNodes l r).length + (rvNodes l r).length :=
  cloneEdges_next.trans (by rw [lv_next])

theorem fresh_lv {c : BNode} (h : c ∈ (lvPart l r).1) : r.next ≤ c.id ∧ c.id < r.next + (lvNodes l r).length :=
  cloneEdges_id h
theorem fresh_rv {c : BNode} (h : c ∈ (rvPart l r).1) :
    r.next + (lvNodes l r).length ≤ c.id ∧ c.id < r.next + (lvNodes l r).length + (rvNodes l r).length := by
  have := cloneEdges_id h
  rwa [lv_next] at this

theorem mem_common (hr : r.WF) {e : BEdge} : e ∈ commonEdges l r ↔
    ∃ o ∈ l.outputs, ∃ i ∈ r.inputs, i.name = o.name ∧ e = identityEdge o i := by
  simp only [commonEdges, List.mem_filterMap, Option.map_eq_some_iff]
  constructor
  · rintro ⟨o, ho, i, hi, rfl⟩
    exact ⟨o, ho, i, (byName_some hi).1, (byName_some hi).2, rfl⟩
  · rintro ⟨o, ho, i, hi, hn, rfl⟩
    exact ⟨o, ho, i, hn ▸ byName_of_mem hr.inNames hi, rfl⟩

/-! `mem_cloneEdges` for the first group and `cloneEdges_of_source` for both, with the direction of the edges put in -/

theorem mem_lvE {e : BEdge} (h : e ∈ (lvPart l r).2.1) :
    ∃ n ∈ lvNodes l r, ∃ c ∈ (lvPart l r).1, c.name = n.name ∧ e = identityEdge c n := mem_cloneEdges h

theorem lv_of_source {n : BNode} (hn : n ∈ lvNodes l r) :
    ∃ c ∈ (lvPart l r).1, c.name = n.name ∧ identityEdge c n ∈ (lvPart l r).2.1 := cloneEdges_of_source hn
theorem rv_of_source {n : BNode} (hn : n ∈ rvNodes l r) :
    ∃ c ∈ (rvPart l r).1, c.name = n.name ∧ identityEdge n c ∈ (rvPart l r).2.1 := cloneEdges_of_source hn

/-! ### rule 3 adds nothing -/

theorem names_rv : names (rvPart l r).1 = (names l.outputs).filter (passes l r) :=
  (cloneEdges_names ..).trans (names_filter l.outputs (passes l r))

theorem connectRaw_pers (h : Sep l r) : ∀ x ∈ (connectRaw l r).persistent, x ∈ names (connectRaw l r).outputs := by
  intro x hx
  simp only [connectRaw, names_append, names_rv, List.mem_append, List.mem_filter]
  by_cases hro : x ∈ names r.outputs
  · exact .inl hro
  · rcases (NameSet.mem_lunion _ _ _).1 hx with hx | hx
    · exact .inr ⟨h.wl.persOut x hx, passes_iff.2 (.inr ⟨hx, hro⟩)⟩
    · exact absurd (h.wr.persOut x hx) hro

/-- with the invariants of well-formed bags rule 3 of `normalize_bag` adds nothing when two bags are connected -/
theorem rule3_nil (h : Sep l r) : (connectRaw l r).rule3 = [] := by
  refine List.eq_nil_iff_forall_not_mem.2 fun i hi => ?_
  obtain ⟨hi, hvp, hno⟩ := RawBag.mem_rule3.1 hi
  rcases Bool.or_eq_true_iff.1 hvp with hv | hp
  · -- no input has a virtual name
    have hv : l.virt.mem i.name = true ∧ r.virt.mem i.name = true := by
      simpa [connectRaw, NameSet.mem_inter] using hv
    rcases List.mem_append.1 hi with hi | hi
    · simp [h.wl.virtIn i hi] at hv
    · obtain ⟨n, hn, hcn, _⟩ := cloneEdges_of_clone hi
      simp [hcn, h.wr.virtIn n (mem_lvNodes.1 hn).1] at hv
  · exact hno (connectRaw_pers h _ (by simpa using hp))

theorem connected_inputs : (connected l r).inputs = l.inputs ++ (lvPart l r).1 := rfl

theorem mem_connected_inputs {n : BNode} : n ∈ (connected l r).inputs ↔ n ∈ l.inputs ∨ n ∈ (lvPart l r).1 := by
  rw [connected_inputs, List.mem_append]

theorem connected_input_id (h : Sep l r) {n : BNode} (hn : n ∈ (connected l r).inputs) :
    n ∈ l.inputs ∧ n.id < l.next ∨ r.next ≤ n.id ∧ n.id < r.next + (lvNodes l r).length :=
  (mem_connected_inputs.1 hn).imp (fun h1 => ⟨h1, h.l_id (nodes3_in h1)⟩) fresh_lv

theorem connected_outputs (h : Sep l r) : (connected l r).outputs = r.outputs ++ (rvPart l r).1 :=
  (RawBag.core_of_rule3_nil (rule3_nil h)).1

theorem connected_edges (h : Sep l r) : (connected l r).edges =
    l.edges ++ r.edges ++ commonEdges l r ++ (lvPart l r).2.1 ++ (rvPart l r).2.1 :=
  (RawBag.core_of_rule3_nil (rule3_nil h)).2

theorem connected_virt (h : Sep l r) (x : String) :
    (connected l r).virt.mem x = (l.virt.mem x && r.virt.mem x) := by
  rw [connected, RawBag.core_virt, rule3_nil h]
  exact (Bool.and_true _).trans (NameSet.mem_inter ..)

theorem mem_connected_edges (h : Sep l r) {e : BEdge} : e ∈ (connected l r).edges ↔
    e ∈ l.edges ∨ e ∈ r.edges ∨ e ∈ commonEdges l r ∨ e ∈ (lvPart l r).2.1 ∨ e ∈ (rvPart l r).2.1 := by
  simp only [connected_edges h, List.mem_append, or_assoc]

theorem connected_of_right (h : Sep l r) {e : BEdge} (he : e ∈ r.edges) : e ∈ (connected l r).edges :=
  (mem_connected_edges h).2 (.inr (.inl he))

theorem connected_stitch (h : Sep l r) {o n : BNode} (ho : o ∈ l.outputs) (hn : n ∈ r.inputs) (hon : o.name = n.name) :
    identityEdge o n ∈ (connected l r).edges :=
  (mem_connected_edges h).2 (.inr (.inr (.inl ((mem_common h.wr).2 ⟨o, ho, n, hn, hon.symm, rfl⟩))))

theorem connected_lv_edge (h : Sep l r) {n : BNode} (hn : n ∈ r.inputs) (hv : l.virt.mem n.name = true) :
    ∃ c ∈ (lvPart l r).1, c.name = n.name ∧ identityEdge c n ∈ (connected l r).edges := by
  obtain ⟨c, hc, hcn, hce⟩ := lv_of_source (mem_lvNodes.2 ⟨hn, hv⟩)
  exact ⟨c, hc, hcn, (mem_connected_edges h).2 (.inr (.inr (.inr (.inl hce))))⟩

theorem connected_edge_out (h : Sep l r) {e : BEdge} (he : e ∈ (connected l r).edges) :
    e ∈ l.edges ∧ e.out.id < l.next ∨
    (e ∈ r.edges ∨ e ∈ commonEdges l r ∨ e ∈ (lvPart l r).2.1) ∧ InR l r e.out ∨
    e ∈ (rvPart l r).2.1 ∧ r.next ≤ e.out.id := by
  rcases (mem_connected_edges h).1 he with h1 | h1 | h1 | h1 | h1
  · exact .inl ⟨h1, h.l_id (nodes3_eout h1)⟩
  · exact .inr (.inl ⟨.inl h1, h.r_id (nodes3_eout h1)⟩)
  · obtain ⟨o, _, i, hi, _, rfl⟩ := (mem_common h.wr).1 h1
    exact .inr (.inl ⟨.inr (.inl h1), h.r_id (nodes3_in hi)⟩)
  · obtain ⟨n, hn, _, _, _, rfl⟩ := mem_lvE h1
    exact .inr (.inl ⟨.inr (.inr h1), h.r_id (nodes3_in (mem_lvNodes.1 hn).1)⟩)
  · obtain ⟨_, _, c, hc, _, rfl⟩ := mem_cloneEdges h1
    exact .inr (.inr ⟨h1, Nat.le_trans (Nat.le_add_right ..) (fresh_rv hc).1⟩)

theorem edge_into_left (h : Sep l r) {e : BEdge} (he : e ∈ (connected l r).edges) (ho : e.out.id < l.next) :
    e ∈ l.edges := by
  have := h.le
  rcases connected_edge_out h he with ⟨h1, _⟩ | ⟨_, h1, _⟩ | ⟨_, h1⟩
  · exact h1
  · omega
  · omega

/-- **Left frame**: connecting a bag on the right changes nothing in the left bag's region. -/
theorem agree_left (h : Sep l r) : AgreeOn (fun n => n.id < l.next) l (connected l r) where
  inputs n hn := by
    refine ⟨fun h1 => ?_, fun h1 => mem_connected_inputs.2 (.inl h1)⟩
    have := h.le
    rcases connected_input_id h h1 with ⟨h1, _⟩ | h1
    · exact h1
    · omega
  edges e ho := ⟨fun he => edge_into_left h he ho, fun he => (mem_connected_edges h).2 (Or.inl he)⟩
  closed e he ho i hi := h.l_id (nodes3_ein (edge_into_left h he ho) hi)

theorem den_left (h : Sep l r) {n : BNode} (hn : n.id < l.next) (t : BTerm) :
    BDen (connected l r) n t ↔ BDen l n t :=
  BDen.frame (agree_left h) hn t

end

end CM
