/-
  CM.Proofs.BagLink — the link: the node of the compiled graph that stands for a bag node denotes what the bag node computes.
-/
import CM.Proofs.DenLemmas
import CM.Proofs.Sound
import CM.Proofs.CountLemmas
import CM.Proofs.EdgeSem
import CM.Proofs.BagStruct
import CM.Proofs.TermDen
import CM.Proofs.BagCompile
namespace CM

/-- What `link` needs of a bag `b`, the requested node `o` and a configuration `d`.  `peeled` holds when `b` is acyclic
(`peeled_of_acyclic`), `base` whenever `inLeaf` does (`compile_base`).  `pure` is there because `BTerm.den` calls user functions
as `d.call 0` and `den g d n` as `d.call n`: a term has no node indices, and the two agree only without impure functions. -/
structure LinkHyp (b : Bag) (o : BNode) (d : DenCfg) : Prop where
  single : SingleIncoming b.edges
  inLeaf : ∀ n ∈ b.inputs, ∀ e ∈ b.edges, e.out ≠ n
  peeled : ∀ e ∈ b.edges, e ∈ b.order
  base : GraphBase (b.compileGraph o)
  pure : d.impureFns = []

section
variable {b : Bag} {o : BNode} {d : DenCfg}

theorem den_compiled_edge (H : LinkHyp b o d) {e : BEdge} (he : e ∈ b.edges) :
    den (b.compileGraph o) d (b.idx o e.out) =
      e.edge.den (d.call 0) (e.ins.map fun p => den (b.compileGraph o) d (b.idx o p)) := by
  have hnd := node_eq_of_getElem? (node_of_edge_out (o := o) H.single (H.peeled e he))
  rw [den_edge d H.base (e := e.edge) (by rw [hnd]; rfl), Graph.parents, hnd, call_pure_idx d H.pure _ 0]
  simp only [Bag.mkEdge, List.map_map, Function.comp_def]

theorem reach_ins (H : LinkHyp b o d) {e : BEdge} (he : e ∈ b.edges) (hni : e.out ∉ b.inputs)
    (hr : (b.compileGraph o).init (b.idx o e.out) ≠ 0) {p : BNode} (hp : p ∈ e.ins) :
    (b.compileGraph o).init (b.idx o p) ≠ 0 := by
  refine init_parent _ (topo_of_base _ H.base) _ _ hr (Bool.eq_false_iff.2 fun hc => hni ?_) ?_
  · exact (inputs_contains_idx (mem_nodeList.2 (.inl (mem_edgeNodes_out he)))).1 hc
  · rw [Graph.parents, node_eq_of_getElem? (node_of_edge_out (o := o) H.single (H.peeled e he))]
    exact List.mem_map.2 ⟨p, hp, rfl⟩

/-- **The link**: a reachable node of the compiled graph that stands for `n` denotes what the term `n` computes denotes.
Reachable (`init ≠ 0`), because a declared input that the output does not reach is no *used* input of the graph and denotes
an internal error there, while its term is `.inp`. -/
theorem link (H : LinkHyp b o d) {n : BNode} {t : BTerm} (hd : BDen b n t) :
    (b.compileGraph o).init (b.idx o n) ≠ 0 → DenEq (den (b.compileGraph o) d (b.idx o n)) (t.den d) := by
  induction hd with
  | @input n hi =>
    intro hr
    have hn : n ∈ b.nodeList o := mem_nodeList.2 (.inr (.inl hi))
    have hu : (b.compileGraph o).usedInputs.contains (b.idx o n) = true := by
      rw [usedInputs_contains, (inputs_contains_idx hn).2 hi]
      simpa using hr
    rw [den_usedInput _ d (node_of_leaf (leaf_of_no_edge hn (H.inLeaf n hi))) hu, BTerm.den]
    simp only [mkLeaf]
    cases d.env n.name <;> exact .refl _
  | @missing n hni hno =>
    -- a leaf that is no input, or no node of the graph at all: an internal error either way
    intro _
    by_cases hn : n ∈ b.nodeList o
    · have hu : (b.compileGraph o).usedInputs.contains (b.idx o n) = false := by
        rw [usedInputs_contains, Bool.eq_false_iff.2 (mt (inputs_contains_idx hn).1 hni)]
        rfl
      rw [den_noEdge _ d (node_of_leaf (leaf_of_no_edge hn hno)) hu rfl]
      exact .refl _
    · rw [den_absent _ d _ (List.getElem?_eq_none (by rw [nodes_length, Bag.idx, List.idxOf_eq_length hn]; exact Nat.le_refl _))]
      exact .refl _
  | @ident n p t e hni he ho hk hi _ ih =>
    subst ho
    intro hr
    rw [den_compiled_edge H he, hk, hi]
    exact denEq_trans (identity_den _ _) (ih (reach_ins H he hni hr (by rw [hi]; exact List.mem_singleton.2 rfl)))
  | @edge n ts e hni he ho hk hlen _ ih =>
    subst ho
    intro hr
    rw [den_compiled_edge H he, BTerm.den_node, denList_eq_map, e.edge.den_congr (d.call 0) _ (·.den d) hlen]
    · exact .refl _
    · exact fun q hq => ih q hq (reach_ins H he hni hr (List.of_mem_zip hq).1)

end
end CM
