/-
  CM.Proofs.OptMapM — `optMapM'` (CM.Model.Factory), the `mapM` of `Option` spelled out: it returns the values of `f`, all of
  which exist (`optMapM'_map`), and what that says about lengths, members and pairs.
-/
import CM.Model.Factory
namespace CM

variable {α β γ : Type} {f : α → Option β} {xs : List α} {ys : List β}

theorem optMapM'_map : ∀ {xs : List α} {ys : List β}, optMapM' f xs = some ys → xs.map f = ys.map some
  | [], ys, h => by
    simp only [optMapM', Option.some.injEq] at h
    subst h; rfl
  | x :: xs, ys, h => by
    simp only [optMapM'] at h
    split at h
    · rename_i y ys' hy hys
      injection h with h; subst h
      simp only [List.map_cons, hy, optMapM'_map hys]
    · cases h

theorem optMapM'_length (h : optMapM' f xs = some ys) : xs.length = ys.length := by
  simpa using congrArg List.length (optMapM'_map h)

theorem mem_optMapM' (h : optMapM' f xs = some ys) {y : β} : y ∈ ys ↔ ∃ x ∈ xs, f x = some y := by
  have hm : some y ∈ ys.map some ↔ y ∈ ys := by simp
  rw [← hm, ← optMapM'_map h, List.mem_map]

theorem optMapM'_mem (h : optMapM' f xs = some ys) {x : α} (hx : x ∈ xs) : ∃ y ∈ ys, f x = some y := by
  have hm : f x ∈ ys.map some := optMapM'_map h ▸ List.mem_map_of_mem hx
  obtain ⟨y, hy, e⟩ := List.mem_map.1 hm
  exact ⟨y, hy, e.symm⟩

theorem optMapM'_rel (h : optMapM' f xs = some ys) {p : α × β} (hp : p ∈ xs.zip ys) : f p.1 = some p.2 := by
  obtain ⟨i, hi, rfl⟩ := List.mem_iff_getElem.1 hp
  rw [List.length_zip, Nat.lt_min] at hi
  simpa [hi.1, hi.2] using congrArg (·[i]?) (optMapM'_map h)

theorem optMapM'_zip (h : optMapM' f xs = some ys) (ts : List γ) {q : β × γ} (hq : q ∈ ys.zip ts) :
    ∃ a, (a, q.2) ∈ xs.zip ts ∧ f a = some q.1 := by
  have hm : (some q.1, q.2) ∈ (ys.map some).zip ts := by
    rw [List.zip_map_left]; exact List.mem_map.2 ⟨q, hq, rfl⟩
  rw [← optMapM'_map h, List.zip_map_left] at hm
  obtain ⟨⟨a, t⟩, hp, e⟩ := List.mem_map.1 hm
  simp only [Prod.map, id, Prod.mk.injEq] at e
  exact ⟨a, e.2 ▸ hp, e.1⟩

end CM
