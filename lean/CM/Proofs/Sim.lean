/-
  CM.Proofs.Sim — stage 1 of `vm_correct`: the stack machine of CM.Model.VM simulates the big-step
  evaluator of CM.Proofs.Big, for every graph, every continuation (stack `S`, commands `C`) and every
  memory.  Induction on the derivation of the run, one case per rule; no invariant is needed.
-/
import CM.Proofs.Deriv
namespace CM

/-- `s` reaches `s'` by iterations of the command loop that neither return nor raise. -/
inductive Reaches (g : Graph) : St → St → Prop
  | refl (s : St) : Reaches g s s
  | head {s s' s'' : St} : step g s = .next s' → Reaches g s' s'' → Reaches g s s''

theorem Reaches.trans {g : Graph} {a b c : St} (h₁ : Reaches g a b) (h₂ : Reaches g b c) : Reaches g a c := by
  induction h₁ with
  | refl => exact h₂
  | head hs _ ih => exact .head hs (ih h₂)

theorem Reaches.one {g : Graph} {a b : St} (h : step g a = .next b) : Reaches g a b := .head h (.refl b)

/-- from `s` the loop reaches a state whose next iteration lets exception `e` escape with memory `m'` -/
def Raises (g : Graph) (s : St) (e : Err) (m' : Mem) : Prop :=
  ∃ s' s'', Reaches g s s' ∧ step g s' = .raised e s'' ∧ s''.mem = m'

theorem Raises.of_reaches {g : Graph} {a b : St} {e : Err} {m' : Mem} (h₁ : Reaches g a b) (h₂ : Raises g b e m') :
    Raises g a e m' := by
  obtain ⟨s', s'', hr, hs, hm⟩ := h₂
  exact ⟨s', s'', h₁.trans hr, hs, hm⟩

/-- the machine configuration in which task `t` is about to run on top of stack `S` and commands `C` -/
def Starts (t : Task) (S : List Item) (C : List Cmd) (m : Mem) (s : St) : Prop :=
  match t with
  | .hash n => s = ⟨.node n :: S, .computeHash :: C, m⟩
  | .value n => s = ⟨.node n :: S, .evaluate :: C, m⟩
  | .prog n p => ∃ v k, k v = p ∧ s = ⟨v :: S, .send n k :: C, m⟩
  | .req n r => s = ⟨.node n :: S, .req r :: C, m⟩
  | .reqs n rsRev acc => s = ⟨acc ++ S, .tuple n (acc.length + rsRev.length) rsRev :: C, m⟩

theorem raises_now {g : Graph} {s s'' : St} {e : Err} (h : step g s = .raised e s'') : Raises g s e s''.mem :=
  ⟨s, s'', .refl s, h, rfl⟩

/-! ### one iteration of the command loop, command by command -/

section
variable {g : Graph} {S : List Item} {C : List Cmd} {m : Mem} {n : Nat}

theorem step_hash_hit {x : Item} (hx : m.hashes.memo n = some x) :
    step g ⟨.node n :: S, .computeHash :: C, m⟩ = .next ⟨x :: S, C, m⟩ := by simp [step, hx]

theorem step_hash_run {e : EdgeK} (hx : m.hashes.memo n = none) (he : (g.node n).edge = some e) :
    step g ⟨.node n :: S, .computeHash :: C, m⟩ =
      .next ⟨.val .none :: S, .send n (fun _ => e.hashProg (g.parents n).length) :: .store .hashes n :: C, m⟩ := by
  simp [step, hx, he]

theorem step_hash_leaf (hx : m.hashes.memo n = none) (he : (g.node n).edge = none) :
    step g ⟨.node n :: S, .computeHash :: C, m⟩ = .raised .internal ⟨.node n :: S, .computeHash :: C, m⟩ := by
  simp [step, hx, he, stuck]

theorem step_value_hit {v : Val} (hx : m.cache.memo n = some v) :
    step g ⟨.node n :: S, .evaluate :: C, m⟩ = .next ⟨.val v :: S, C, m⟩ := by simp [step, hx]

theorem step_value_run {e : EdgeK} (hx : m.cache.memo n = none) (he : (g.node n).edge = some e) :
    step g ⟨.node n :: S, .evaluate :: C, m⟩ =
      .next ⟨.val .none :: S, .send n (fun _ => e.evalProg (g.parents n).length) :: .store .cache n :: C, m⟩ := by
  simp [step, hx, he]

theorem step_value_leaf (hx : m.cache.memo n = none) (he : (g.node n).edge = none) :
    step g ⟨.node n :: S, .evaluate :: C, m⟩ = .raised .internal ⟨.node n :: S, .evaluate :: C, m⟩ := by
  simp [step, hx, he, stuck]

theorem step_store_hash {x : Item} {h : Scratch Item} (hy : m.hashes.memo n = none) (hset : m.hashes.set n x = some h) :
    step g ⟨x :: S, .store .hashes n :: C, m⟩ = .next ⟨x :: S, C, { m with hashes := h }⟩ := by simp [step, hy, hset]

theorem step_store_hash_bad {x : Item} (hbad : m.hashes.memo n = none → m.hashes.set n x = none) :
    step g ⟨x :: S, .store .hashes n :: C, m⟩ = .raised .internal ⟨x :: S, .store .hashes n :: C, m⟩ := by
  cases hy : m.hashes.memo n with
  | some _ => simp [step, hy, stuck]
  | none => simp [step, hy, hbad hy, stuck]

theorem step_store_val {v : Val} {c : Scratch Val} (hy : m.cache.memo n = none) (hset : m.cache.set n v = some c) :
    step g ⟨.val v :: S, .store .cache n :: C, m⟩ = .next ⟨.val v :: S, C, { m with cache := c }⟩ := by simp [step, hy, hset]

theorem step_store_val_bad {x : Item} (hbad : ∀ v, x = .val v → m.cache.memo n = none → m.cache.set n v = none) :
    step g ⟨x :: S, .store .cache n :: C, m⟩ = .raised .internal ⟨x :: S, .store .cache n :: C, m⟩ := by
  cases x with
  | val v =>
    cases hy : m.cache.memo n with
    | some _ => simp [step, hy, stuck]
    | none => simp [step, hy, hbad v rfl hy, stuck]
  | hash _ | hout _ _ | node _ | tup _ => simp [step, stuck]

theorem step_send_ret {v x : Item} {k : Item → Prog} {w : World} {h : Scratch Item} {c : Scratch Val}
    (hr : runEffs (k v) m.world = (.ret x, w)) (hev : evictAll (g.parents n) m.hashes m.cache = some (h, c)) :
    step g ⟨v :: S, .send n k :: C, m⟩ = .next ⟨x :: S, C, { hashes := h, cache := c, world := w }⟩ := by simp [step, hr, hev]

theorem step_send_evict {v x : Item} {k : Item → Prog} {w : World}
    (hr : runEffs (k v) m.world = (.ret x, w)) (hev : evictAll (g.parents n) m.hashes m.cache = none) :
    step g ⟨v :: S, .send n k :: C, m⟩ = .raised .internal ⟨v :: S, .send n k :: C, { m with world := w }⟩ := by
  simp [step, hr, hev, stuck]

theorem step_send_raise {v : Item} {k : Item → Prog} {e : Err} {w : World} (hr : runEffs (k v) m.world = (.raise e, w)) :
    step g ⟨v :: S, .send n k :: C, m⟩ = .raised e ⟨v :: S, .send n k :: C, { m with world := w }⟩ := by simp [step, hr]

theorem step_send_req {v : Item} {k k' : Item → Prog} {r : Req} {w : World} (hr : runEffs (k v) m.world = (.req r k', w)) :
    step g ⟨v :: S, .send n k :: C, m⟩ = .next ⟨.node n :: S, .req r :: .send n k' :: C, { m with world := w }⟩ := by
  simp [step, hr]

theorem step_parentHash {i p : Nat} (hp : (g.parents n)[i]? = some p) :
    step g ⟨.node n :: S, .req (.parentHash i) :: C, m⟩ = .next ⟨.node p :: S, .computeHash :: .item 0 :: C, m⟩ := by
  simp [step, hp]

theorem step_parentValue {i p : Nat} (hp : (g.parents n)[i]? = some p) :
    step g ⟨.node n :: S, .req (.parentValue i) :: C, m⟩ = .next ⟨.node p :: S, .evaluate :: C, m⟩ := by simp [step, hp]

theorem step_noParent {i : Nat} {r : Req} (hp : (g.parents n)[i]? = none) (hr : r = .parentHash i ∨ r = .parentValue i) :
    step g ⟨.node n :: S, .req r :: C, m⟩ = .raised .internal ⟨.node n :: S, .req r :: C, m⟩ := by
  rcases hr with rfl | rfl <;> simp [step, hp, stuck]

/-- `CurrentHash` and `Payload` run `ComputeHash` on the node itself and keep item 0 / item 1 of its output -/
theorem step_current {r : Req} (hr : r = .currentHash ∨ r = .payload) :
    step g ⟨.node n :: S, .req r :: C, m⟩ = .next ⟨.node n :: S, .computeHash :: .item (if r matches .currentHash then 0 else 1) :: C, m⟩ := by
  rcases hr with rfl | rfl <;> simp [step]

theorem step_item_hash {h : NHash} {pl : Val} : step g ⟨.hout h pl :: S, .item 0 :: C, m⟩ = .next ⟨.hash h :: S, C, m⟩ := rfl

theorem step_item_payload {h : NHash} {pl : Val} : step g ⟨.hout h pl :: S, .item 1 :: C, m⟩ = .next ⟨.val pl :: S, C, m⟩ := rfl

theorem step_item_bad {x : Item} {i : Nat} (hbad : ∀ h pl, x ≠ .hout h pl) :
    step g ⟨x :: S, .item i :: C, m⟩ = .raised .internal ⟨x :: S, .item i :: C, m⟩ := by
  rcases i with _ | _ | i <;> cases x <;> first | rfl | exact absurd rfl (hbad _ _)

theorem step_await {rs : List Req} :
    step g ⟨.node n :: S, .req (.await rs) :: C, m⟩ = .next ⟨S, .tuple n rs.length rs.reverse :: C, m⟩ := by simp [step]

theorem step_call_ok {fn : String} {pos : List Val} {kwn : List String} {kwv : List Val} {v : Val} {w : World}
    (hc : m.world.call n fn pos kwn kwv = (.ok v, w)) :
    step g ⟨.node n :: S, .req (.call fn pos kwn kwv) :: C, m⟩ = .next ⟨.val v :: S, C, { m with world := w }⟩ := by
  simp [step, hc]

theorem step_call_err {fn : String} {pos : List Val} {kwn : List String} {kwv : List Val} {e : Err} {w : World}
    (hc : m.world.call n fn pos kwn kwv = (.error e, w)) :
    step g ⟨.node n :: S, .req (.call fn pos kwn kwv) :: C, m⟩ =
      .raised e ⟨.node n :: S, .req (.call fn pos kwn kwv) :: C, { m with world := w }⟩ := by
  simp [step, hc]

theorem step_tuple_nil {acc : List Item} :
    step g ⟨acc ++ S, .tuple n acc.length [] :: C, m⟩ = .next ⟨.tup acc :: S, C, m⟩ := by
  simp [step]
  omega

theorem step_tuple_cons {cnt : Nat} {r : Req} {rest : List Req} :
    step g ⟨S, .tuple n cnt (r :: rest) :: C, m⟩ = .next ⟨.node n :: S, .req r :: .tuple n cnt rest :: C, m⟩ := by simp [step]

end

/-- after the head request of a tuple has been answered by `y`, the rest of the tuple starts with `y` among the answers -/
theorem starts_reqs_tail {n : Nat} {r : Req} {rest : List Req} {acc : List Item} {y : Item} {S : List Item} {C : List Cmd} {m : Mem} :
    Starts (.reqs n rest (y :: acc)) S C m ⟨y :: (acc ++ S), .tuple n (acc.length + (r :: rest).length) rest :: C, m⟩ := by
  simp only [Starts, List.length_cons, List.cons_append]
  rw [show acc.length + (rest.length + 1) = acc.length + 1 + rest.length by omega]

/-- **The machine simulates a returning run**: from the configuration in which the task starts it reaches the one in which the
result lies on the stack. -/
theorem Returns.reaches {g : Graph} {t : Task} {m : Mem} {x : Item} {m' : Mem} (h : Returns g t m x m') :
    ∀ S C s, Starts t S C m s → Reaches g s ⟨x :: S, C, m'⟩ := by
  induction h with
  | hashHit hx => rintro S C _ rfl; exact .one (step_hash_hit hx)
  | hashRun hx he _ hy hset ih =>
    rintro S C _ rfl
    exact (Reaches.head (step_hash_run hx he) (ih S _ _ ⟨_, _, rfl, rfl⟩)).trans (.one (step_store_hash hy hset))
  | valueHit hx => rintro S C _ rfl; exact .one (step_value_hit hx)
  | valueRun hx he _ hy hset ih =>
    rintro S C _ rfl
    exact (Reaches.head (step_value_run hx he) (ih S _ _ ⟨_, _, rfl, rfl⟩)).trans (.one (step_store_val hy hset))
  | progRet hr hev => rintro S C _ ⟨v, k, rfl, rfl⟩; exact .one (step_send_ret hr hev)
  | progReq hr _ _ ihr ihk =>
    rintro S C _ ⟨v, k, rfl, rfl⟩
    exact (Reaches.head (step_send_req hr) (ihr S _ _ rfl)).trans (ihk S C _ ⟨_, _, rfl, rfl⟩)
  | parentHash hp _ ih =>
    rintro S C _ rfl
    exact (Reaches.head (step_parentHash hp) (ih S _ _ rfl)).trans (.one step_item_hash)
  | parentValue hp _ ih => rintro S C _ rfl; exact .head (step_parentValue hp) (ih S C _ rfl)
  | currentHash _ ih =>
    rintro S C _ rfl
    exact (Reaches.head (step_current (.inl rfl)) (ih S _ _ rfl)).trans (.one step_item_hash)
  | payload _ ih =>
    rintro S C _ rfl
    exact (Reaches.head (step_current (.inr rfl)) (ih S _ _ rfl)).trans (.one step_item_payload)
  | await _ ih => rintro S C _ rfl; exact .head step_await (ih S C _ (by simp [Starts]))
  | call hc => rintro S C _ rfl; exact .one (step_call_ok hc)
  | reqsNil => rintro S C _ rfl; exact .one step_tuple_nil
  | @reqsCons _ r rest acc _ y _ _ _ _ _ ihr ihk =>
    rintro S C _ rfl
    exact (Reaches.head step_tuple_cons (ihr (acc ++ S) _ _ rfl)).trans (ihk S C _ starts_reqs_tail)

/-- **The machine simulates a raising run**: it reaches a configuration whose next iteration lets the exception escape. -/
theorem Throws.raises {g : Graph} {t : Task} {m : Mem} {e : Err} {m' : Mem} (h : Throws g t m e m') :
    ∀ S C s, Starts t S C m s → Raises g s e m' := by
  induction h with
  | hashLeaf hx he => rintro S C _ rfl; exact raises_now (step_hash_leaf hx he)
  | hashProg hx he _ ih => rintro S C _ rfl; exact .of_reaches (.one (step_hash_run hx he)) (ih S _ _ ⟨_, _, rfl, rfl⟩)
  | hashStore hx he hr hbad =>
    rintro S C _ rfl
    exact .of_reaches (.head (step_hash_run hx he) (hr.reaches S _ _ ⟨_, _, rfl, rfl⟩)) (raises_now (step_store_hash_bad hbad))
  | valueLeaf hx he => rintro S C _ rfl; exact raises_now (step_value_leaf hx he)
  | valueProg hx he _ ih => rintro S C _ rfl; exact .of_reaches (.one (step_value_run hx he)) (ih S _ _ ⟨_, _, rfl, rfl⟩)
  | valueStore hx he hr hbad =>
    rintro S C _ rfl
    exact .of_reaches (.head (step_value_run hx he) (hr.reaches S _ _ ⟨_, _, rfl, rfl⟩)) (raises_now (step_store_val_bad hbad))
  | progEvict hr hev => rintro S C _ ⟨v, k, rfl, rfl⟩; exact raises_now (step_send_evict hr hev)
  | progRaise hr => rintro S C _ ⟨v, k, rfl, rfl⟩; exact raises_now (step_send_raise hr)
  | progReq hr _ ih => rintro S C _ ⟨v, k, rfl, rfl⟩; exact .of_reaches (.one (step_send_req hr)) (ih S _ _ rfl)
  | progCont hr hy _ ih =>
    rintro S C _ ⟨v, k, rfl, rfl⟩
    exact .of_reaches (.head (step_send_req hr) (hy.reaches S _ _ rfl)) (ih S C _ ⟨_, _, rfl, rfl⟩)
  | noParent hp hr => rintro S C _ rfl; exact raises_now (step_noParent hp hr)
  | parentHash hp _ ih => rintro S C _ rfl; exact .of_reaches (.one (step_parentHash hp)) (ih S _ _ rfl)
  | parentHashBad hp hr hbad =>
    rintro S C _ rfl
    exact .of_reaches (.head (step_parentHash hp) (hr.reaches S _ _ rfl)) (raises_now (step_item_bad hbad))
  | parentValue hp _ ih => rintro S C _ rfl; exact .of_reaches (.one (step_parentValue hp)) (ih S C _ rfl)
  | current hr _ ih => rintro S C _ rfl; exact .of_reaches (.one (step_current hr)) (ih S _ _ rfl)
  | currentBad hr hret hbad =>
    rintro S C _ rfl
    exact .of_reaches (.head (step_current hr) (hret.reaches S _ _ rfl)) (raises_now (step_item_bad hbad))
  | await _ ih => rintro S C _ rfl; exact .of_reaches (.one step_await) (ih S C _ (by simp [Starts]))
  | call hc => rintro S C _ rfl; exact raises_now (step_call_err hc)
  | @reqsHead _ _ _ acc _ _ _ _ ih => rintro S C _ rfl; exact .of_reaches (.one step_tuple_cons) (ih (acc ++ S) _ _ rfl)
  | @reqsTail _ r rest acc _ y _ _ _ hy _ ih =>
    rintro S C _ rfl
    exact .of_reaches (.head step_tuple_cons (hy.reaches (acc ++ S) _ _ rfl)) (ih S C _ starts_reqs_tail)

end CM
