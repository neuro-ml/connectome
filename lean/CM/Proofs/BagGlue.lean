/-
  CM.Proofs.BagGlue — the gluing theorem: what the nodes of the right bag compute in the connected bag.
-/
import CM.Proofs.BagConnect
namespace CM

/-- What a term of the right bag becomes once its inputs are fed by the left bag `l`: an input name is replaced by
what the left bag computes under that name, stays an input if the left bag passes it on from further upstream
(virtual name), and is unreachable otherwise. -/
inductive Glue (l : Bag) : BTerm → BTerm → Prop
  | fed {x o t} : o ∈ l.outputs → o.name = x → BDen l o t → Glue l (.inp x) t
  | virt {x} : x ∉ names l.outputs → l.virt.mem x = true → Glue l (.inp x) (.inp x)
  | cut {x} : x ∉ names l.outputs → l.virt.mem x = false → Glue l (.inp x) (.missing x)
  | missing {x} : Glue l (.missing x) (.missing x)
  | node {e ts ts'} : ts.length = ts'.length → (∀ p ∈ ts.zip ts', Glue l p.1 p.2) →
      Glue l (.node e ts) (.node e ts')

section
variable {l r : Bag}

theorem not_input_of_inR (h : Sep l r) {n : BNode} (hn : InR l r n) : n ∉ (connected l r).inputs := fun h1 => by
  have := hn.1; have := hn.2
  rcases connected_input_id h h1 with h1 | h1 <;> omega

theorem edge_into_right (h : Sep l r) {e : BEdge} (he : e ∈ (connected l r).edges) (ho : InR l r e.out) :
    e ∈ r.edges ∨ e ∈ commonEdges l r ∨ e ∈ (lvPart l r).2.1 := by
  rcases connected_edge_out h he with ⟨_, h1⟩ | ⟨h1, _⟩ | ⟨_, h1⟩
  · have := ho.1; omega
  · exact h1
  · have := ho.2; omega

theorem den_right_to (h : Sep l r) {n : BNode} {t : BTerm} (hc : BDen (connected l r) n t) (hn : InR l r n) :
    ∃ t0, BDen r n t0 ∧ Glue l t0 t := by
  induction hc with
  | @input n hi => exact absurd hi (not_input_of_inR h hn)
  | @missing n hni hno =>
    by_cases hin : n ∈ r.inputs
    · -- neither a stitch nor an identity from a fresh input leads to `n`
      refine ⟨.inp n.name, .input hin, .cut (fun hx => ?_) (Bool.eq_false_iff.2 fun hv => ?_)⟩
      · obtain ⟨o, ho, hon⟩ := mem_names.1 hx
        exact hno _ (connected_stitch h ho hin hon) rfl
      · obtain ⟨c, _, _, hce⟩ := connected_lv_edge h hin hv
        exact hno _ hce rfl
    · exact ⟨.missing n.name, .missing hin fun e he => hno e (connected_of_right h he), .missing⟩
  | @ident n p t e hni he ho hk hi hp ih =>
    rcases edge_into_right h he (ho ▸ hn) with h1 | h1 | h1
    · obtain ⟨t0, hd, hg⟩ := ih (h.r_id (nodes3_ein h1 (by rw [hi]; simp)))
      exact ⟨t0, .ident e (fun hin => h.wr.inLeaf n hin e h1 ho) h1 ho hk hi hd, hg⟩
    · obtain ⟨o, hol, i, hir, hname, rfl⟩ := (mem_common h.wr).1 h1
      cases hi
      obtain rfl : n = i := ho.symm
      exact ⟨.inp n.name, .input hir, .fed hol hname.symm ((den_left h (h.l_id (nodes3_out hol)) t).1 hp)⟩
    · obtain ⟨m, hm, c, hcl, hcn, rfl⟩ := mem_lvE h1
      cases hi
      obtain rfl : n = m := ho.symm
      obtain ⟨hmi, hmv⟩ := mem_lvNodes.1 hm
      cases den_input_inv (mem_connected_inputs.2 (.inr hcl)) hp
      rw [hcn]
      -- an output name of the left bag is not virtual there
      exact ⟨.inp n.name, .input hmi, .virt (fun hx => by simp [h.wl.virt_names hx] at hmv) hmv⟩
  | @edge n ts e hni he ho hk hlen hp ih =>
    rcases edge_into_right h he (ho ▸ hn) with h1 | h1 | h1
    · obtain ⟨ts0, hl0, hd, hg⟩ := zip_choice (BDen r) (Glue l) e.ins ts hlen
        (fun p hp' => ih p hp' (h.r_id (nodes3_ein h1 (List.of_mem_zip hp').1)))
      exact ⟨.node e.edge ts0, .edge e (fun hin => h.wr.inLeaf n hin e h1 ho) h1 ho hk hl0 hd,
        .node (hl0.symm.trans hlen) hg⟩
    · obtain ⟨o, _, i, _, _, rfl⟩ := (mem_common h.wr).1 h1
      exact absurd rfl hk
    · obtain ⟨_, _, _, _, _, rfl⟩ := mem_lvE h1
      exact absurd rfl hk

theorem no_edge_into_right (h : Sep l r) {n : BNode} (hn : InR l r n)
    (hr : ∀ e ∈ r.edges, e.out ≠ n) (hc : n ∈ r.inputs → n.name ∉ names l.outputs ∧ l.virt.mem n.name = false) :
    ∀ e ∈ (connected l r).edges, e.out ≠ n := by
  rintro e he rfl
  rcases edge_into_right h he hn with h1 | h1 | h1
  · exact hr e h1 rfl
  · obtain ⟨o, hol, i, hir, hname, rfl⟩ := (mem_common h.wr).1 h1
    exact (hc hir).1 (mem_names.2 ⟨o, hol, hname.symm⟩)
  · obtain ⟨m, hm, _, _, _, rfl⟩ := mem_lvE h1
    exact Bool.eq_false_iff.1 (hc (mem_lvNodes.1 hm).1).2 (mem_lvNodes.1 hm).2

theorem den_right_of (h : Sep l r) {n : BNode} {t0 t : BTerm} (hd : BDen r n t0) (hn : InR l r n) (hg : Glue l t0 t) :
    BDen (connected l r) n t := by
  induction hd generalizing t with
  | @input n hin =>
    have hni := not_input_of_inR h hn
    cases hg with
    | @fed _ o t hol hon hdl =>
      exact .ident (identityEdge o n) hni (connected_stitch h hol hin hon) rfl rfl rfl
        ((den_left h (h.l_id (nodes3_out hol)) t).2 hdl)
    | virt hx hv =>
      obtain ⟨c, hcl, hcn, hce⟩ := connected_lv_edge h hin hv
      exact .ident (identityEdge c n) hni hce rfl rfl rfl (hcn ▸ .input (mem_connected_inputs.2 (.inr hcl)))
    | cut hx hv => exact .missing hni (no_edge_into_right h hn (h.wr.inLeaf n hin) fun _ => ⟨hx, hv⟩)
  | @missing n hnin hno =>
    cases hg
    exact .missing (not_input_of_inR h hn) (no_edge_into_right h hn hno fun hin => absurd hin hnin)
  | @ident n p t0 e hnin he ho hk hi _ ih =>
    exact .ident e (not_input_of_inR h hn) (connected_of_right h he) ho hk hi
      (ih (h.r_id (nodes3_ein he (by rw [hi]; simp))) hg)
  | @edge n ts0 e hnin he ho hk hlen _ ih =>
    cases hg with
    | @node _ _ ts' hl' hz =>
      refine .edge e (not_input_of_inR h hn) (connected_of_right h he) ho hk (hlen.trans hl') fun q hq => ?_
      obtain ⟨u, hu1, hu2⟩ := zip_mid e.ins ts0 ts' hlen hl' q hq
      exact ih (q.1, u) hu1 (h.r_id (nodes3_ein he (List.of_mem_zip hq).1)) (hz (u, q.2) hu2)

/-- **Gluing**: in the connected bag a node of the right bag computes exactly its own term with the inputs fed by the
left bag. -/
theorem den_right (h : Sep l r) {n : BNode} (hn : InR l r n) (t : BTerm) :
    BDen (connected l r) n t ↔ ∃ t0, BDen r n t0 ∧ Glue l t0 t :=
  ⟨fun hc => den_right_to h hc hn, fun ⟨_, hd, hg⟩ => den_right_of h hd hn hg⟩

end

theorem glue_unary {l : Bag} {e : EdgeK} {t0 t : BTerm} : Glue l (.node e [t0]) t ↔ ∃ t', Glue l t0 t' ∧ t = .node e [t'] := by
  constructor
  · rintro (_ | _ | _ | _ | @⟨_, _, ts', hlen, hz⟩)
    match ts', hlen with
    | [t'], _ => exact ⟨t', hz (t0, t') (by simp), rfl⟩
  · rintro ⟨t', hg, rfl⟩
    exact .node rfl (by simpa using hg)

end CM
