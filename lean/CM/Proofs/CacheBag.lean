/-
  CM.Proofs.CacheBag — the container of a cache layer (`CM.Model.Factory.cacheBag`, layers/cache.py
  `CacheToStorage._prepare_container`): it is well-formed and every cached name is a cache edge over the input of that name.
-/
import CM.Proofs.Basics
import CM.Proofs.BagSem
import CM.Proofs.BagField
import CM.Proofs.MkBag
import CM.Proofs.Factory
namespace CM

theorem cacheRaw_edge_mem (s : Nat) (xs : List String) (e : BEdge) :
    e ∈ (cacheRaw s xs).edges ↔ ∃ i x, xs[i]? = some x ∧ e = { edge := .cache (s + i), ins := [⟨i, x⟩], out := ⟨xs.length + i, x⟩ } :=
  mem_map_zipIdx

/-- **The container of a cache layer is well-formed** whenever `EdgesBag(...)` accepts it. -/
theorem cacheBag_wf {s : Nat} {names : NameSet} {prev : List String} {b : Bag} (h : cacheBag s names prev = .ok b) : b.WF := by
  refine mkBag_wf h (ids_below (fun n hn => mem_nodesAt_lt hn (Nat.add_le_add_right (Nat.zero_le _) _))
    (fun n hn => mem_nodesAt_lt hn (Nat.le_refl _)) fun e he => ?_) (fun x hx => nomatch hx)
  obtain ⟨i, x, hx, rfl⟩ := (cacheRaw_edge_mem s _ e).1 he
  have hi : i < (cachedNames names prev).length := (List.getElem?_eq_some_iff.1 hx).1
  simp only [cacheRaw, List.forall_mem_singleton]
  omega

/-- **Every cached name is a cache edge over the input of that name.** -/
theorem cacheBag_field {s : Nat} {names : NameSet} {prev : List String} {b : Bag} (h : cacheBag s names prev = .ok b)
    (x : String) (hx : x ∈ cachedNames names prev) : ∃ i, b.Field x (.node (.cache (s + i)) [.inp x]) := by
  have hin := mkBag_inputs h
  have hed := mkBag_edges h
  obtain ⟨i, hi, rfl⟩ := List.getElem_of_mem hx
  have hget := List.getElem?_eq_getElem hi
  have hinp : (⟨i, (cachedNames names prev)[i]⟩ : BNode) ∈ b.inputs := by
    rw [hin]; exact mem_nodesAt.2 ⟨i, hget, (Nat.zero_add i).symm⟩
  have hni : (⟨(cachedNames names prev).length + i, (cachedNames names prev)[i]⟩ : BNode) ∉ b.inputs := by
    rw [hin]; exact not_mem_nodesAt_of_le (Nat.le_add_right ..)
  exact ⟨i, _, mkBag_outputs h _ (mem_nodesAt.2 ⟨i, hget, rfl⟩), rfl,
    .unary hni (hed _ ((cacheRaw_edge_mem ..).2 ⟨i, _, hget, rfl⟩)) (by simp) (.input hinp)⟩

end CM
