/-
  CM.Proofs.Factory — what the container of a layer computes (`CM.Model.Factory`): every field is its function applied to
  the named inputs and to the layer's private parameters, constructor arguments being constants.
-/
import CM.Proofs.Basics
import CM.Proofs.OptMapM
import CM.Proofs.MkBag
import CM.Proofs.BagField
namespace CM

theorem nodeAt_some {base : Nat} {names : List String} {x : String} {n : BNode} (h : nodeAt base names x = some n) :
    ∃ i, names[i]? = some x ∧ n = { id := base + i, name := x } := by
  unfold nodeAt at h
  cases hi : names.idxOf? x with
  | none => simp [hi] at h
  | some i =>
    simp only [hi, Option.some.injEq] at h
    obtain ⟨hlt, heq, _⟩ := List.idxOf?_eq_some_iff.1 hi
    exact ⟨i, by simp [hlt, heq], h.symm⟩

theorem mem_nodesAt {base : Nat} {names : List String} {n : BNode} :
    n ∈ nodesAt base names ↔ ∃ i, names[i]? = some n.name ∧ n.id = base + i := by
  refine mem_map_zipIdx.trans ⟨?_, fun ⟨i, hx, hid⟩ => ⟨i, _, hx, ?_⟩⟩
  · rintro ⟨i, x, hx, rfl⟩
    exact ⟨i, hx, rfl⟩
  · cases n; cases hid; rfl

theorem nodeAt_mem {base : Nat} {names : List String} {x : String} {n : BNode} (h : nodeAt base names x = some n) :
    n ∈ nodesAt base names := by
  obtain ⟨i, hx, rfl⟩ := nodeAt_some h
  exact mem_nodesAt.2 ⟨i, hx, rfl⟩

theorem mem_nodesAt_lt {base k : Nat} {ns : List String} {n : BNode} (h : n ∈ nodesAt base ns) (hk : base + ns.length ≤ k) :
    n.id < k := by
  obtain ⟨i, hx, hid⟩ := mem_nodesAt.1 h
  have : i < ns.length := (List.getElem?_eq_some_iff.1 hx).1
  omega

theorem nodeAt_lt {base k : Nat} {names : List String} {x : String} {n : BNode} (h : nodeAt base names x = some n)
    (hk : base + names.length ≤ k) : n.id < k := mem_nodesAt_lt (nodeAt_mem h) hk

theorem not_mem_nodesAt_of_le {names : List String} {n : BNode} (h : names.length ≤ n.id) : n ∉ nodesAt 0 names :=
  fun hm => Nat.lt_irrefl _ (mem_nodesAt_lt hm (Nat.le_trans (Nat.le_of_eq (Nat.zero_add _)) h))

theorem names_nodesAt (base : Nat) (ns : List String) : names (nodesAt base ns) = ns := by
  simp only [names, nodesAt, List.map_map]
  exact List.zipIdx_map_fst ..

/-- the six kinds of nodes of a layer are numbered one kind after the other, inputs first, all below the counter -/
structure FLayout.Bounds (l : FLayout) : Prop where
  aBase : l.pBase ≤ l.aBase
  oBase : l.pBase ≤ l.oBase
  inputs : 0 + l.inputs.length ≤ l.next
  params : l.pBase + l.params.length ≤ l.next
  args : l.aBase + l.args.length ≤ l.next
  outputs : l.oBase + l.outputs.length ≤ l.next
  backIn : l.biBase + l.backIn.length ≤ l.next
  backOut : l.boBase + l.backOut.length ≤ l.next

theorem layout_bounds (l : FLayout) : l.Bounds := by
  constructor <;> simp only [FLayout.next, FLayout.boBase, FLayout.biBase, FLayout.oBase, FLayout.aBase, FLayout.pBase] <;> omega

/-! ### what a returning `reversible`, `factory` say -/

/-- the arguments of the first `normalize_bag` of `ReversibleContainer.__init__`.  This and `reversibleRaw2` repeat the two records in
the body of `reversible` (CM.Model.Factory); `reversible_ok` ties them, so an edit on one side alone stops the build. -/
def reversibleRaw1 (inputs outputs : List BNode) (es : List BEdge) (fwd : NameSet) (persistent : List String) (next : Nat) : RawBag :=
  { inputs, outputs, edges := es, virt := fwd, persistent, optional := [], ctx := .no, next }

/-- the arguments of the second one (`EdgesBag.__init__`) -/
def reversibleRaw2 (b1 : Bag) (persistent : List String) (opt backIn backOut : List BNode) (back : NameSet) : RawBag :=
  { inputs := b1.inputs, outputs := b1.outputs, edges := b1.edges, virt := b1.virt, persistent := persistent,
    optional := opt, ctx := .bag backIn backOut back, next := b1.next }

section
variable {inputs outputs : List BNode} {es : List BEdge} {backIn backOut : List BNode} {optNames : List String}
  {fwd back : NameSet} {persistent : List String} {next : Nat} {b : Bag}

theorem reversible_ok (h : reversible inputs outputs es backIn backOut optNames fwd back persistent next = .ok b) :
    ∃ b1 opt, mkBag (reversibleRaw1 inputs outputs es fwd persistent next) = .ok b1 ∧
      detectOptionals optNames b1.inputs b1.outputs backIn backOut b1.edges = some opt ∧
      mkBag (reversibleRaw2 b1 persistent opt backIn backOut back) = .ok b := by
  unfold reversible at h
  split at h
  · cases h
  · rename_i b1 h1
    split at h
    · cases h
    · rename_i opt hopt
      split at h
      · cases h
      · split at h
        · cases h
        · rename_i h2
          injection h with h; subst h
          exact ⟨b1, opt, h1, hopt, h2⟩

theorem reversible_shape (h : reversible inputs outputs es backIn backOut optNames fwd back persistent next = .ok b) :
    b.inputs = inputs ∧ (∀ e ∈ es, e ∈ b.edges) ∧ (∀ o ∈ outputs, o ∈ b.outputs) := by
  obtain ⟨b1, opt, h1, _, h2⟩ := reversible_ok h
  exact ⟨(mkBag_inputs h2).trans (mkBag_inputs h1), fun e he => mkBag_edges h2 e (mkBag_edges h1 e he),
    fun o ho => mkBag_outputs h2 o (mkBag_outputs h1 o ho)⟩

theorem reversible_ctx (h : reversible inputs outputs es backIn backOut optNames fwd back persistent next = .ok b) :
    b.ctx = .bag backIn backOut back := by
  obtain ⟨_, _, _, _, h2⟩ := reversible_ok h
  exact mkBag_ctx h2

end

/-- the `fwd` of `RawLayer.factory`: the names a `Transform` passes through unchanged (`normalize_inherit` of `__inherit__` /
`__exclude__` against its own outputs); none for a `Source` -/
def RawLayer.fwdVirt (r : RawLayer) : NameSet :=
  if r.isSource then NameSet.fin [] else normalizeInherit r.inherit r.exclude r.layout.outputs
/-- the `persistent` of `RawLayer.factory`: `id` and the `@meta` fields of a `Source`; none for a `Transform` -/
def RawLayer.persistentNames (r : RawLayer) : List String :=
  if r.isSource then dedup ("id" :: (r.fields.filter (·.isMeta)).map (·.name)) else []

theorem factory_reversible {r : RawLayer} {b : Bag} (h : r.factory = .ok b) :
    ∃ es back, r.factoryEdges r.layout = some es ∧
      reversible (nodesAt 0 r.layout.inputs) (nodesAt r.layout.oBase r.layout.outputs) es (nodesAt r.layout.biBase r.layout.backIn)
        (nodesAt r.layout.boBase r.layout.backOut) ((r.fields.filter (·.opt)).map (·.name)) r.fwdVirt back r.persistentNames
        r.layout.next = .ok b := by
  unfold RawLayer.factory at h
  obtain ⟨_, h⟩ := of_guard_ok h
  obtain ⟨_, h⟩ := of_guard_ok h
  obtain ⟨_, h⟩ := of_guard_ok h
  split at h
  · cases h
  · rename_i es hes
    exact ⟨es, _, hes, h⟩

theorem factory_shape {r : RawLayer} {b : Bag} (h : r.factory = .ok b) :
    ∃ es, r.factoryEdges r.layout = some es ∧ b.inputs = nodesAt 0 r.layout.inputs ∧ (∀ e ∈ es, e ∈ b.edges) ∧
      ∀ o ∈ nodesAt r.layout.oBase r.layout.outputs, o ∈ b.outputs := by
  obtain ⟨es, _, hes, hrev⟩ := factory_reversible h
  exact ⟨es, hes, reversible_shape hrev⟩

/-- the context of a layer built from its class body: its backward inputs are the public arguments of its inverse fields, its backward
outputs the inverse fields -/
theorem factory_ctx {r : RawLayer} {b : Bag} (h : r.factory = .ok b) :
    ∃ back, b.ctx = .bag (nodesAt r.layout.biBase r.layout.backIn) (nodesAt r.layout.boBase r.layout.backOut) back := by
  obtain ⟨_, back, _, hrev⟩ := factory_reversible h
  exact ⟨back, reversible_ctx hrev⟩

/-! ### the edges of a layer, one kind at a time -/

/-- the node a forward argument is bound to -/
def RawLayer.argNode (r : RawLayer) (a : String) : Option BNode :=
  if isPrivate a then nodeAt r.layout.pBase r.layout.params a
  else if isOut a then nodeAt r.layout.oBase r.layout.outputs (outName a)
  else nodeAt 0 r.layout.inputs (r.fwdArg a)

section
variable {r : RawLayer} {f : RawField} {e : BEdge}

/-- the one shape of `paramEdge`, `fieldEdge` and `invEdge` -/
theorem fnEdge_some {g : String → Option BNode} {x : Option BNode}
    (h : (match x with
      | some o => (optMapM' g f.args).map fun ins => ({ edge := .function f.f [] [], ins := ins, out := o } : BEdge)
      | none => none) = some e) :
    ∃ o ins, x = some o ∧ optMapM' g f.args = some ins ∧ e = { edge := .function f.f [] [], ins := ins, out := o } := by
  cases x with
  | none => cases h
  | some o =>
    obtain ⟨ins, hins, rfl⟩ := Option.map_eq_some_iff.1 h
    exact ⟨o, ins, rfl, hins, rfl⟩

theorem paramEdge_some (h : r.paramEdge r.layout f = some e) :
    ∃ p ins, nodeAt r.layout.pBase r.layout.params f.name = some p ∧ optMapM' r.argNode f.args = some ins ∧
      e = { edge := .function f.f [] [], ins := ins, out := p } := fnEdge_some h

theorem fieldEdge_some (h : r.fieldEdge r.layout f = some e) :
    ∃ o ins, nodeAt r.layout.oBase r.layout.outputs f.name = some o ∧ optMapM' r.argNode f.args = some ins ∧
      e = { edge := .function f.f [] [], ins := ins, out := o } := fnEdge_some h

theorem invEdge_some {l : FLayout} (h : RawLayer.invEdge l f = some e) :
    ∃ o ins, nodeAt l.boBase l.backOut f.name = some o ∧
      optMapM' (fun a => if isPrivate a then nodeAt l.pBase l.params a else nodeAt l.biBase l.backIn a) f.args = some ins ∧
      e = { edge := .function f.f [] [], ins := ins, out := o } := fnEdge_some h

theorem constEdges_some {l : FLayout} {c : String × Val} {pair : List BEdge} (h : constEdges l c = some pair) :
    ∃ p a, nodeAt l.pBase l.params c.1 = some p ∧ nodeAt l.aBase l.args (toArgument c.1) = some a ∧
      pair = [identityEdge a p, { edge := .constant c.2, ins := [], out := a }] := by
  unfold constEdges at h
  split at h
  · rename_i p a hp ha
    injection h with h
    exact ⟨p, a, hp, ha, h.symm⟩
  · cases h

theorem mem_keyEdges {l : FLayout} (h : e ∈ r.keyEdges l) :
    ∃ i o, nodeAt 0 l.inputs "id" = some i ∧ nodeAt l.oBase l.outputs "id" = some o ∧ e = identityEdge i o := by
  unfold RawLayer.keyEdges at h
  split at h
  · split at h
    · rename_i i o hi ho
      exact ⟨i, o, hi, ho, List.mem_singleton.1 h⟩
    · cases h
  · cases h

theorem factoryEdges_parts {l : FLayout} {es : List BEdge} (h : r.factoryEdges l = some es) :
    ∃ consts params fields invs, optMapM' (constEdges l) r.consts = some consts ∧
      optMapM' (r.paramEdge l) r.params = some params ∧ optMapM' (r.fieldEdge l) r.fields = some fields ∧
      optMapM' (RawLayer.invEdge l) r.inverses = some invs ∧
      es = r.keyEdges l ++ consts.flatten ++ params ++ fields ++ invs := by
  unfold RawLayer.factoryEdges at h
  split at h
  · rename_i consts params fields invs h1 h2 h3 h4
    injection h with h
    exact ⟨consts, params, fields, invs, h1, h2, h3, h4, h.symm⟩
  · cases h

end

/-! ### what a name denotes inside the layer -/

/-- the term a forward argument of the layer denotes: a public name is the input of that name (a Source's is the key), a
constructor argument is a constant, a private parameter is its function applied to its own arguments, an undefined private
name is unreachable -/
inductive ArgDen (r : RawLayer) : String → BTerm → Prop
  | pub {a} : isPrivate a = false → isOut a = false → ArgDen r a (.inp (r.fwdArg a))
  /-- an argument annotated `Output`: what the layer's own field of that name computes -/
  | out {a ts} (p : RawField) : isPrivate a = false → isOut a = true → p ∈ r.fields → p.name = outName a → p.args.length = ts.length →
      (∀ q ∈ p.args.zip ts, ArgDen r q.1 q.2) → ArgDen r a (.node (.function p.f [] []) ts)
  | const {a v} : isPrivate a = true → (a, v) ∈ r.consts → ArgDen r a (.node (.constant v) [])
  | param {a ts} (p : RawField) : isPrivate a = true → p ∈ r.params → p.name = a → p.args.length = ts.length →
      (∀ q ∈ p.args.zip ts, ArgDen r q.1 q.2) → ArgDen r a (.node (.function p.f [] []) ts)

theorem nodeAt_not_input {r : RawLayer} {b : Bag} (hb : b.inputs = nodesAt 0 r.layout.inputs) {base : Nat} {names : List String}
    {a : String} {n : BNode} (h : nodeAt base names a = some n) (hbase : r.layout.pBase ≤ base) : n ∉ b.inputs := by
  rw [hb]
  obtain ⟨i, _, rfl⟩ := nodeAt_some h
  exact not_mem_nodesAt_of_le (Nat.le_trans hbase (Nat.le_add_right ..))

theorem fwdEdge_den {r : RawLayer} {b : Bag} {p : RawField} {ins : List BNode} {n : BNode} {ts : List BTerm}
    (hins : optMapM' r.argNode p.args = some ins) (he : ({ edge := .function p.f [] [], ins := ins, out := n } : BEdge) ∈ b.edges)
    (hn : n ∉ b.inputs) (hlen : p.args.length = ts.length)
    (ih : ∀ q ∈ p.args.zip ts, ∀ m, r.argNode q.1 = some m → BDen b m q.2) : BDen b n (.node (.function p.f [] []) ts) := by
  refine .edge _ hn he rfl (by simp) ((optMapM'_length hins).symm.trans hlen) fun q hq => ?_
  obtain ⟨a, ha, hm⟩ := optMapM'_zip hins ts hq
  exact ih _ ha _ hm

theorem field_den {r : RawLayer} {b : Bag} (h : r.factory = .ok b) {f : RawField} (hf : f ∈ r.fields) {ts : List BTerm}
    (hlen : f.args.length = ts.length) (ih : ∀ q ∈ f.args.zip ts, ∀ m, r.argNode q.1 = some m → BDen b m q.2) :
    ∃ o, nodeAt r.layout.oBase r.layout.outputs f.name = some o ∧ BDen b o (.node (.function f.f [] []) ts) := by
  obtain ⟨es, hes, hb, hedges, _⟩ := factory_shape h
  obtain ⟨consts, params, fields, invs, _, _, hfields, _, rfl⟩ := factoryEdges_parts hes
  obtain ⟨e, he, hfe⟩ := optMapM'_mem hfields hf
  obtain ⟨o, ins, ho, hins, rfl⟩ := fieldEdge_some hfe
  exact ⟨o, ho, fwdEdge_den hins (hedges _ (by simp [he])) (nodeAt_not_input hb ho (layout_bounds r.layout).oBase) hlen ih⟩

/-- **Inside a layer every argument denotes what `ArgDen` says**, by induction on the definition of the private parameters. -/
theorem argDen_sound {r : RawLayer} {b : Bag} (h : r.factory = .ok b) {a : String} {t : BTerm} (hd : ArgDen r a t) :
    ∀ n, r.argNode a = some n → BDen b n t := by
  obtain ⟨es, hes, hb, hedges, _⟩ := factory_shape h
  obtain ⟨consts, params, fields, invs, hconsts, hparams, _, _, rfl⟩ := factoryEdges_parts hes
  induction hd with
  | @pub a hp ho =>
    intro n hn
    simp only [RawLayer.argNode, hp, ho, Bool.false_eq_true, if_false] at hn
    have hm := nodeAt_mem hn
    obtain ⟨_, _, rfl⟩ := nodeAt_some hn
    exact .input (hb ▸ hm)
  | @const a v hp hc =>
    intro n hn
    simp only [RawLayer.argNode, hp, if_true] at hn
    obtain ⟨pair, hpair, hf⟩ := optMapM'_mem hconsts hc
    obtain ⟨p, an, hpn, han, rfl⟩ := constEdges_some hf
    obtain rfl : p = n := Option.some.inj (hpn.symm.trans hn)
    have hin : ∀ e ∈ [identityEdge an p, ({ edge := .constant v, ins := [], out := an } : BEdge)], e ∈ b.edges := fun e he =>
      hedges e (by simp [List.mem_flatten_of_mem hpair he])
    refine .ident (identityEdge an p) (nodeAt_not_input hb hpn (Nat.le_refl _)) (hin _ (by simp)) rfl rfl rfl ?_
    exact .edge ({ edge := .constant v, ins := [], out := an } : BEdge) (nodeAt_not_input hb han (layout_bounds r.layout).aBase)
      (hin _ (by simp)) rfl (by simp) rfl (by intro q hq; simp at hq)
  | @param a ts p hp hpm hname hlen _ ih =>
    intro n hn
    simp only [RawLayer.argNode, hp, if_true] at hn
    obtain ⟨e, he, hf⟩ := optMapM'_mem hparams hpm
    obtain ⟨pn, ins, hpn, hins, rfl⟩ := paramEdge_some hf
    obtain rfl : pn = n := Option.some.inj (hpn.symm.trans (hname ▸ hn))
    exact fwdEdge_den hins (hedges _ (by simp [he])) (nodeAt_not_input hb hn (Nat.le_refl _)) hlen ih
  | @out a ts p hp ho hpm hname hlen _ ih =>
    intro n hn
    simp only [RawLayer.argNode, hp, ho, Bool.false_eq_true, if_false, if_true] at hn
    obtain ⟨o, hon, hd⟩ := field_den h hpm hlen ih
    exact Option.some.inj (hon.symm.trans (hname ▸ hn)) ▸ hd

/-- **What a field of a layer computes.**  In the container `GraphFactory` builds for the layer, the output node of the field
`f` computes the function of `f` applied to what its arguments denote: the inputs of those names, the layer's constructor
arguments (constants) and its private parameters (recursively). -/
theorem factory_field_term {r : RawLayer} {b : Bag} (h : r.factory = .ok b) (f : RawField) (hf : f ∈ r.fields)
    (ts : List BTerm) (hlen : f.args.length = ts.length) (hargs : ∀ q ∈ f.args.zip ts, ArgDen r q.1 q.2) :
    ∃ o, nodeAt r.layout.oBase r.layout.outputs f.name = some o ∧ BDen b o (.node (.function f.f [] []) ts) :=
  field_den h hf hlen fun q hq => argDen_sound h (hargs q hq)

theorem factory_field {r : RawLayer} {b : Bag} (h : r.factory = .ok b) (f : RawField) (hf : f ∈ r.fields)
    (ts : List BTerm) (hlen : f.args.length = ts.length) (hargs : ∀ q ∈ f.args.zip ts, ArgDen r q.1 q.2) :
    b.Field f.name (.node (.function f.f [] []) ts) := by
  obtain ⟨o, ho, hd⟩ := factory_field_term h f hf ts hlen hargs
  have hname : o.name = f.name := by
    obtain ⟨i, _, rfl⟩ := nodeAt_some ho
    rfl
  obtain ⟨_, _, _, _, hout⟩ := factory_shape h
  exact ⟨o, hout o (nodeAt_mem ho), hname, hd⟩

end CM
