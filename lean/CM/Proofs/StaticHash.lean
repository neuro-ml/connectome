/-
  CM.Proofs.StaticHash — `hash_graph`: the static hash of node `n` is `hgNode` applied to the static hashes of the
  earlier nodes (`Graph.hashGraphAll` is a `prefixFold`, as `denAll` is: CM.Proofs.DenLemmas).
-/
import CM.Model.VM
import CM.Proofs.PrefixFold
namespace CM

/-- the static hash of node `n` -/
def hg (g : Graph) (n : Nat) : Except Err NHash := g.hashGraphAll.getD n (.error .internal)

theorem hashGraph_eq_hg (g : Graph) : g.hashGraph = (hg g g.output).map .graph := rfl

theorem hgFrom_eq (g : Graph) : ∀ (nodes : List Node) (i : Nat) (acc : List (Except Err NHash)),
    hgFrom g nodes i acc = prefixFold (hgNode g) nodes i acc
  | [], _, _ => rfl
  | nd :: rest, i, acc => by rw [hgFrom, prefixFold, hgFrom_eq g rest]

theorem hgFrom_length (g : Graph) : ∀ (nodes : List Node) (i : Nat) (acc : List (Except Err NHash)),
    (hgFrom g nodes i acc).length = acc.length + nodes.length :=
  fun nodes i acc => by rw [hgFrom_eq, prefixFold_length]

theorem hg_eq (g : Graph) (n : Nat) (nd : Node) (h : g.nodes[n]? = some nd) :
    hg g n = hgNode g (g.hashGraphAll.take n) n nd := by
  have := prefixFold_get (hgNode g) g.nodes 0 [] n nd rfl h
  simp only [Nat.zero_add, ← hgFrom_eq] at this
  simp only [hg, Graph.hashGraphAll, List.getD_eq_getElem?_getD, this, Option.getD_some]

theorem hg_take_getD (g : Graph) (n p : Nat) (hp : p < n) :
    (g.hashGraphAll.take n).getD p (.error .internal) = hg g p := by
  simp only [hg, List.getD_eq_getElem?_getD, List.getElem?_take, hp, if_true]

end CM
