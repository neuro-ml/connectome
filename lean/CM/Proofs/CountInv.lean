/-
  CM.Proofs.CountInv — what the eviction-counter invariant of one call is stated over: the ghost state and the
  counter function `remaining`, and `EvictionCache.evict` run against a counter function.

  Ghost state: for every node, whether its hash generator (`dH`) and its value generator (`dV`) have run to
  completion (each completion evicts every parent occurrence once from both scratch tables).  The invariant
  (`CInv`, CM.Proofs.Count) says that both tables hold, for every node `p`,

      counts[p] = remaining p = [p = output]·2 + Σ_{c live} occ(c, p) · (init c − dH c − dV c)

  (absent when that number is 0), and that a memoised result is still present while this number is not 0.
-/
import CM.Proofs.CountLemmas
namespace CM

/-- ghost state of a call: which hash generators (`dH`) and value generators (`dV`) have run to completion -/
structure Ghost where
  dH : Nat → Bool
  dV : Nat → Bool

def b2n (b : Bool) : Nat := if b then 1 else 0

/-- how many evictions of each parent occurrence node `c` still owes: its two generators evict once per path to `c` each
(`init c` = 2 × paths), less the completed ones -/
def weight (g : Graph) (G : Ghost) (c : Nat) : Nat :=
  if g.live c then g.init c - b2n (G.dH c) - b2n (G.dV c) else 0

/-- what the counter of `p` must stand at, given the ghost flags -/
def remaining (g : Graph) (G : Ghost) (p : Nat) : Nat :=
  (if p = g.output then 2 else 0) + sumTo (g.output + 1) (fun c => occ g c p * weight g G c)

/-- a counter as the scratch table holds it: 0 is "key absent" -/
def toOpt : Nat → Option Nat
  | 0 => none
  | k + 1 => some (k + 1)

def Ghost.none : Ghost := ⟨fun _ => false, fun _ => false⟩

/-- the flag of one generator of `n`.  Throughout, a Boolean `hp` ("phase") next to a node says which of its two generators is meant:
`true` the hash generator (`compute_hash`), `false` the value generator (`evaluate`) -/
def Ghost.flag (G : Ghost) (hp : Bool) (n : Nat) : Bool := if hp then G.dH n else G.dV n

def Ghost.setFlag (G : Ghost) (hp : Bool) (n : Nat) : Ghost :=
  if hp then { G with dH := fun j => if j = n then true else G.dH j }
  else { G with dV := fun j => if j = n then true else G.dV j }

theorem remaining_init (g : Graph) (ht : g.Topo) (p : Nat) : remaining g Ghost.none p = g.init p := by
  rw [init_spec g ht p]
  unfold remaining
  congr 1
  apply sumTo_congr
  intro c _
  simp only [weight, Ghost.none, b2n]
  split <;> simp

theorem live_le_output (g : Graph) (ht : g.Topo) (n : Nat) (h : g.live n = true) : n ≤ g.output := by
  cases Nat.lt_or_ge g.output n with
  | inr h' => exact h'
  | inl h' =>
    have := init_zero_of_gt g ht n h'
    simp [Graph.live, pushes, this] at h

theorem live_init (g : Graph) (n : Nat) (h : g.live n = true) : 2 ≤ g.init n := by
  obtain ⟨k, hk⟩ := init_even g n
  simp [Graph.live, pushes] at h
  omega

theorem remaining_frame (g : Graph) (ht : g.Topo) (G G' : Ghost) (n : Nat)
    (h1 : ∀ j, n < j → G'.dH j = G.dH j) (h2 : ∀ j, n < j → G'.dV j = G.dV j) (p : Nat) (hp : n ≤ p) :
    remaining g G' p = remaining g G p := by
  unfold remaining
  congr 1
  apply sumTo_congr
  intro c _
  by_cases ho : occ g c p = 0
  · simp [ho]
  · have hlt := occ_pos_lt g ht c p ho
    simp only [weight, h1 c (by omega), h2 c (by omega)]

theorem remaining_ge (g : Graph) (ht : g.Topo) (G : Ghost) (n p : Nat) (hl : g.live n = true) :
    occ g n p * weight g G n ≤ remaining g G p := by
  unfold remaining
  have := sumTo_ge_term (f := fun c => occ g c p * weight g G c) (g.output + 1) n (by have := live_le_output g ht n hl; omega)
  omega

theorem b2n_le_one (b : Bool) : b2n b ≤ 1 := by cases b <;> decide
theorem b2n_true : b2n true = 1 := rfl
theorem b2n_false : b2n false = 0 := rfl

theorem weight_setFlag (g : Graph) (G : Ghost) (hp : Bool) (n : Nat) (hl : g.live n = true) (hf : G.flag hp n = false) :
    weight g (G.setFlag hp n) n + 1 = weight g G n := by
  have := live_init g n hl
  have := b2n_le_one (G.dH n)
  have := b2n_le_one (G.dV n)
  cases hp with
  | false =>
    have hf' : G.dV n = false := hf
    simp only [weight, hl, ↓reduceIte, Ghost.setFlag, Bool.false_eq_true, hf', b2n_true, b2n_false]
    omega
  | true =>
    have hf' : G.dH n = false := hf
    simp only [weight, hl, ↓reduceIte, Ghost.setFlag, hf', b2n_true, b2n_false]
    omega

theorem weight_pos (g : Graph) (G : Ghost) (hp : Bool) (n : Nat) (hl : g.live n = true) (hf : G.flag hp n = false) :
    1 ≤ weight g G n := by
  have := weight_setFlag g G hp n hl hf
  omega

theorem weight_setFlag_ne (g : Graph) (G : Ghost) (hp : Bool) (n c : Nat) (hc : c ≠ n) :
    weight g (G.setFlag hp n) c = weight g G c := by
  cases hp <;> simp [weight, Ghost.setFlag, hc]

/-- completing a generator of `n` lowers the counter of each parent by its number of occurrences -/
theorem remaining_setFlag (g : Graph) (ht : g.Topo) (G : Ghost) (hp : Bool) (n p : Nat) (hl : g.live n = true)
    (hf : G.flag hp n = false) : remaining g (G.setFlag hp n) p + occ g n p = remaining g G p := by
  unfold remaining
  have hle := live_le_output g ht n hl
  have hw := weight_setFlag g G hp n hl hf
  have hu := sumTo_update (f := fun c => occ g c p * weight g G c) (f' := fun c => occ g c p * weight g (G.setFlag hp n) c) n
    (fun c hc => by simp only [weight_setFlag_ne g G hp n c hc]) (g.output + 1) (by omega)
  rw [← hw, Nat.mul_succ] at hu
  omega

theorem remaining_le_init (g : Graph) (ht : g.Topo) (G : Ghost) (p : Nat) : remaining g G p ≤ g.init p := by
  rw [← remaining_init g ht p]
  unfold remaining
  apply Nat.add_le_add_left
  apply sumTo_le
  intro c _
  apply Nat.mul_le_mul_left
  simp only [weight, Ghost.none, b2n]
  split
  · simp; omega
  · exact Nat.le_refl _

theorem live_of_active (g : Graph) (ht : g.Topo) (G : Ghost) (n : Nat) (h : remaining g G n ≠ 0)
    (hin : g.inputs.contains n = false) : g.live n = true := by
  have := remaining_le_init g ht G n
  simp only [Graph.live, pushes, hin, Bool.not_false, Bool.true_and, bne_iff_ne, ne_eq]
  omega

theorem setFlag_flag (G : Ghost) (hp : Bool) (n : Nat) : (G.setFlag hp n).flag hp n = true := by
  cases hp <;> simp [Ghost.setFlag, Ghost.flag]

theorem setFlag_dH_of (G : Ghost) (hp : Bool) (n j : Nat) (h : (G.setFlag hp n).dH j = true) (hne : hp = true → j ≠ n) :
    G.dH j = true := by
  cases hp
  · simpa [Ghost.setFlag] using h
  · have := hne rfl
    simpa [Ghost.setFlag, this] using h

theorem setFlag_dV_of (G : Ghost) (hp : Bool) (n j : Nat) (h : (G.setFlag hp n).dV j = true) (hne : hp = false → j ≠ n) :
    G.dV j = true := by
  cases hp
  · have := hne rfl
    simpa [Ghost.setFlag, this] using h
  · simpa [Ghost.setFlag] using h

theorem setFlag_dH_ne (G : Ghost) (hp : Bool) (n j : Nat) (h : j ≠ n) : (G.setFlag hp n).dH j = G.dH j := by
  cases hp <;> simp [Ghost.setFlag, h]

theorem setFlag_dV_ne (G : Ghost) (hp : Bool) (n j : Nat) (h : j ≠ n) : (G.setFlag hp n).dV j = G.dV j := by
  cases hp <;> simp [Ghost.setFlag, h]

/-! ### `EvictionCache.evict` against a counter function -/

theorem toOpt_ne_none (k : Nat) (h : k ≠ 0) : toOpt k = some k := by
  cases k with
  | zero => exact absurd rfl h
  | succ k => rfl

theorem toOpt_eq (k : Nat) : (if k = 0 then none else some k) = toOpt k := by
  cases k <;> simp [toOpt]

/-- one eviction at a key whose counter is `r + 1`: the counter becomes `r` (absent when 0), and the memoised entry survives unless
this was the last one (`r = 0`) -/
theorem evict_spec {α : Type} (s : Scratch α) (k r : Nat) (hc : s.counts k = toOpt (r + 1)) :
    ∃ s', s.evict k = some s' ∧ s'.counts = upd s.counts k (toOpt r) ∧ (r ≠ 0 → s'.memo = s.memo) ∧
      (∀ j, j ≠ k → s'.memo j = s.memo j) := by
  unfold Scratch.evict
  simp only [toOpt] at hc
  rw [hc]
  cases r with
  | zero => exact ⟨_, rfl, rfl, fun h => absurd rfl h, fun j hj => by simp [upd, hj]⟩
  | succ r => exact ⟨_, rfl, rfl, fun _ => rfl, fun _ _ => rfl⟩

/-- the evictions of one table, as `evictAll` interleaves them with those of the other -/
def evictList {α : Type} : List Nat → Scratch α → Option (Scratch α)
  | [], s => some s
  | p :: ps, s => (s.evict p).bind (evictList ps)

theorem evictAll_eq : ∀ (ps : List Nat) (h : Scratch Item) (c : Scratch Val) (h' : Scratch Item) (c' : Scratch Val),
    evictList ps h = some h' → evictList ps c = some c' → evictAll ps h c = some (h', c')
  | [], _, _, _, _, hh, hc => by cases hh; cases hc; rfl
  | p :: ps, h, c, h', c', hh, hc => by
    simp only [evictList] at hh hc
    cases e1 : h.evict p with
    | none => simp [e1] at hh
    | some h1 =>
      cases e2 : c.evict p with
      | none => simp [e2] at hc
      | some c1 =>
        rw [e1] at hh; rw [e2] at hc
        simp only [evictAll, e1, e2]
        exact evictAll_eq ps h1 c1 h' c' hh hc

theorem count_cons_eq {p : Nat} {ps : List Nat} (j : Nat) : (p :: ps).count j = ps.count j + if j = p then 1 else 0 := by
  rw [List.count_cons]; by_cases h : j = p
  · simp [h]
  · simp [h, Ne.symm h]

/-- the evictions of the parents `ps` of a node against the counter function `R`: each key loses its number of occurrences in `ps`
(the counters suffice: `hle`), and the entry at `j` survives unless these evictions take its counter to 0
(`ps.count j = 0 ∨ R j ≠ ps.count j`).  In the step the head `p` is evicted once and the rest is run against `R` lowered by one at `p`. -/
theorem evictList_spec {α : Type} : ∀ (ps : List Nat) (s : Scratch α) (R : Nat → Nat),
    (∀ p, s.counts p = toOpt (R p)) → (∀ p, ps.count p ≤ R p) →
    ∃ s', evictList ps s = some s' ∧ (∀ p, s'.counts p = toOpt (R p - ps.count p)) ∧
      (∀ j, (ps.count j = 0 ∨ R j ≠ ps.count j) → s'.memo j = s.memo j)
  | [], s, R, hs, _ => ⟨s, rfl, by simpa using hs, fun _ _ => rfl⟩
  | p :: ps, s, R, hs, hle => by
    simp only [count_cons_eq] at hle ⊢
    obtain ⟨r, hr⟩ : ∃ r, R p = r + 1 := ⟨R p - 1, by have := hle p; rw [if_pos rfl] at this; omega⟩
    obtain ⟨s1, e1, c1, m1, m1'⟩ := evict_spec s p r (by rw [hs p, hr])
    obtain ⟨s', e3, cs', ms'⟩ := evictList_spec ps s1 (fun j => if j = p then r else R j)
      (fun j => by simp only [c1, upd]; split <;> simp [hs])
      (fun j => by have := hle j; by_cases h : j = p <;> simp only [h, ↓reduceIte] at this ⊢ <;> omega)
    refine ⟨s', by simp only [evictList, e1, Option.bind_some, e3], fun j => ?_, fun j hj => ?_⟩
    · rw [cs' j]
      split
      · next hj => subst hj; congr 1; omega
      · rfl
    · by_cases hjp : j = p
      · subst hjp
        have := hle j
        simp only [↓reduceIte] at hj this
        rw [ms' j (.inr (by simp only [↓reduceIte]; omega)), m1 (by omega)]
      · simp only [hjp, ↓reduceIte, Nat.add_zero] at hj
        rw [ms' j (by simp only [hjp, ↓reduceIte]; exact hj), m1' j hjp]

theorem evictAll_spec (ps : List Nat) (h : Scratch Item) (c : Scratch Val) (R : Nat → Nat)
    (hh : ∀ p, h.counts p = toOpt (R p)) (hc : ∀ p, c.counts p = toOpt (R p)) (hle : ∀ p, ps.count p ≤ R p) :
    ∃ h' c', evictAll ps h c = some (h', c') ∧
      (∀ p, h'.counts p = toOpt (R p - ps.count p)) ∧ (∀ p, c'.counts p = toOpt (R p - ps.count p)) ∧
      (∀ j, (ps.count j = 0 ∨ R j ≠ ps.count j) → h'.memo j = h.memo j) ∧
      (∀ j, (ps.count j = 0 ∨ R j ≠ ps.count j) → c'.memo j = c.memo j) := by
  obtain ⟨h', e1, ch, mh⟩ := evictList_spec ps h R hh hle
  obtain ⟨c', e2, cc, mc⟩ := evictList_spec ps c R hc hle
  exact ⟨h', c', evictAll_eq ps h c h' c' e1 e2, ch, cc, mh, mc⟩

end CM
