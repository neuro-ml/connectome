/-
  CM.Proofs.ChainInv — the closed term of a chain of inverses, each over its backward input and parameters of its own layer, of any length.
-/
import CM.Proofs.ChainRev
namespace CM

/-- a layer whose inverse field is one function `g` of its backward input `n` and of any number of the layer's own (forward) parameters `params`,
returning the backward output `o`; `pts` are the terms the parameters compute -/
structure InvLayer where
  n : BNode
  o : BNode
  g : EdgeK
  inh : NameSet
  params : List BNode := []
  pts : List BTerm := []

def InvLayer.ctx (l : InvLayer) : CtxLayer := ⟨[l.n], [l.o], l.inh⟩
def InvLayer.edge (l : InvLayer) : BEdge := { edge := l.g, ins := l.n :: l.params, out := l.o }

/-- the inverses applied one after the other, the LAST layer's first: `inv_1(... inv_n(t))` for the layers `[Ln, ..., L1]` -/
def invTerm : List InvLayer → BTerm → BTerm
  | [], t => t
  | l :: rest, t => invTerm rest (.node l.g (t :: l.pts))

/-- what the backward pass of the layers returns: the backward output of the first layer (the last of the list) -/
def lastOut : InvLayer → List InvLayer → BNode
  | l, [] => l.o
  | _, l :: rest => lastOut l rest

/-- each layer's inverse is an edge of `r` that computes: `l.edge` is in the graph, is no identity edge and does not end in an input, and the
parameters compute the terms `pts`, one each -/
def Wired (r : Bag) (ls : List InvLayer) : Prop :=
  ∀ l ∈ ls, l.edge ∈ r.edges ∧ l.g ≠ .identity ∧ l.o ∉ r.inputs ∧ l.params.length = l.pts.length ∧
    ∀ q ∈ l.params.zip l.pts, BDen r q.1 q.2

/-- each layer's backward input computes what the backward output of the layer after it computes -/
def Linked (r : Bag) : List InvLayer → Prop
  | [] => True
  | [_] => True
  | a :: b :: rest => (∀ s, BDen r a.o s → BDen r b.n s) ∧ Linked r (b :: rest)

theorem inv_layer_den {r : Bag} {ls : List InvLayer} {l : InvLayer} {t : BTerm} (hw : Wired r ls) (hl : l ∈ ls) (h : BDen r l.n t) :
    BDen r l.o (.node l.g (t :: l.pts)) := by
  obtain ⟨he, hg, ho, hlen, hps⟩ := hw l hl
  refine BDen.edge (ts := t :: l.pts) l.edge ho he rfl hg (congrArg (· + 1) hlen) fun q hq => ?_
  rcases List.mem_cons.1 hq with rfl | hq
  · exact h
  · exact hps q hq

/-- **The closed term of a chain of inverses of any length.** -/
theorem inv_chain_den {r : Bag} : ∀ (ls : List InvLayer) (l0 : InvLayer) (t : BTerm), Wired r (l0 :: ls) → Linked r (l0 :: ls) →
    BDen r l0.n t → BDen r (lastOut l0 ls) (invTerm (l0 :: ls) t)
  | [], _, _, hw, _, h => inv_layer_den hw List.mem_cons_self h
  | l1 :: ls, _, _, hw, hl, h =>
    inv_chain_den ls l1 _ (fun l hl' => hw l (List.mem_cons_of_mem _ hl')) hl.2 (hl.1 _ (inv_layer_den hw List.mem_cons_self h))

theorem linked_of_splits {r : Bag} : ∀ (ls : List InvLayer),
    (∀ pre a b post, ls = pre ++ a :: b :: post → ∀ s, BDen r a.o s → BDen r b.n s) → Linked r ls
  | [], _ | [_], _ => trivial
  | a :: b :: rest, h => ⟨h [] a b rest rfl, linked_of_splits (b :: rest) fun pre a' b' post he =>
      h (a :: pre) a' b' post (by rw [he]; rfl)⟩

theorem chainOuts_inv : ∀ (ls : List InvLayer) (l0 : InvLayer) (outs : List BNode),
    chainOuts ((l0 :: ls).map InvLayer.ctx) outs = [lastOut l0 ls]
  | [], _, _ => rfl
  | l1 :: ls, l0, _ => chainOuts_inv ls l1 l0.ctx.bo

theorem lastOut_mem : ∀ (ls : List InvLayer) (l0 : InvLayer), lastOut l0 ls ∈ (l0 :: ls).map (·.o)
  | [], _ => List.mem_singleton.2 rfl
  | l1 :: ls, _ => List.mem_cons_of_mem _ (lastOut_mem ls l1)

namespace Decorated
variable {s r : Bag} {es : List BEdge} (hd : Decorated s r es) {l0 : InvLayer} {ls : List InvLayer} {inhf : NameSet}
include hd

/-- If the backward input of `l0` computes `t` in the decorated graph, the backward output `lastOut l0 ls` computes `invTerm (l0 :: ls) t`.
The list is last layer first: `l0` is the chain's LAST layer, whose inverse is applied first, and `lastOut l0 ls` belongs to its first. -/
theorem inverse_term (hctx : s.ctx = .chain (chainCtx ((l0 :: ls).map InvLayer.ctx)) (.bag [] [] inhf)) (hw : Wired r (l0 :: ls))
    (hnames : ∀ l ∈ l0 :: ls, l.n ∉ r.inputs ∧ l.n.name = l0.n.name ∧ l.o.name = l0.n.name) {t : BTerm} (hden : BDen r l0.n t) :
    BDen r (lastOut l0 ls) (invTerm (l0 :: ls) t) := by
  refine inv_chain_den ls l0 t hw (linked_of_splits _ fun pre a b post he s hs => ?_) hden
  have ha : a ∈ l0 :: ls := by rw [he]; simp
  have hb : b ∈ l0 :: ls := by rw [he]; simp
  rw [he, List.map_append] at hctx
  exact (hd.adjacent (later := a.ctx) (l := b.ctx) (post := post.map InvLayer.ctx) hctx (List.mem_singleton.2 rfl)
    (List.mem_singleton.2 rfl) ((hnames a ha).2.2.trans (hnames b hb).2.1.symm) (hnames b hb).1 s).2 hs

/-- forward, then `f`, then every inverse, the last layer's first: the last layer's backward input computes what `f` returned
(`Decorated.last_input_fresh`) -/
theorem chain_term (hctx : s.ctx = .chain (chainCtx ((l0 :: ls).map InvLayer.ctx)) (.bag [] [] inhf)) (hw : Wired r (l0 :: ls))
    (hnames : ∀ l ∈ l0 :: ls, l.n ∉ r.inputs ∧ l.n.name = l0.n.name ∧ l.o.name = l0.n.name) {o : BNode} {t : BTerm}
    (hlt : ∀ m ∈ s.inputs, m.id < s.next) (ho : o ∈ s.outputs) (hname : o.name = l0.n.name)
    (hinh : inhf.mem l0.n.name = true) (hdn : ¬ Down r.edges (es.map (·.out)) o) (hden : BDen s o t) :
    BDen r (lastOut l0 ls) (invTerm (l0 :: ls) t) :=
  hd.inverse_term hctx hw hnames ((hd.last_input_fresh (l := l0.ctx) hctx (List.mem_singleton.2 rfl) ho hname hinh hlt
    (hnames l0 List.mem_cons_self).1 hdn t).2 hden)

end Decorated

end CM
