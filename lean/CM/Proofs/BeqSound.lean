/-
  CM.Proofs.BeqSound — the Boolean equalities of the model: the structural `Val.beq`, `NHash.beq` and Python's `==` as the dict
  store uses it on keys (`Val.pyEq`, `hashKeyEq`) are reflexive; the structural ones hold only of equal arguments.
-/
import CM.Model.VM
namespace CM

/- Reflexivity.  `unfold f` before `simp`: given `f` itself, `simp` tries its catch-all equation, with all its side conditions,
at every step. -/

mutual
  theorem Val.beq_refl : ∀ v : Val, Val.beq v v = true
    | .none => rfl
    | .bool _ | .int _ | .str _ | .atom _ => by unfold Val.beq; simp
    | .tup xs => by unfold Val.beq; simp [Val.beqList_refl xs]
    | .dict ks vs => by unfold Val.beq; simp [Val.beqList_refl ks, Val.beqList_refl vs]
    | .app f p k v | .imp f c n p k v => by unfold Val.beq; simp [Val.beqList_refl p, Val.beqList_refl v]
  theorem Val.beqList_refl : ∀ vs : List Val, Val.beqList vs vs = true
    | [] => rfl
    | v :: vs => by unfold Val.beqList; simp [Val.beq_refl v, Val.beqList_refl vs]
end

theorem Val.eq_self (v : Val) : (v == v) = true := Val.beq_refl v

mutual
  theorem Val.pyEq_refl : ∀ v : Val, Val.pyEq v v = true
    | .none | .bool _ | .int _ | .str _ | .atom _ | .dict _ _ => by unfold Val.pyEq; simp [Val.eq_self]
    | .tup xs => by unfold Val.pyEq; simp [Val.pyEqList_refl xs]
    | .app f p k v | .imp f c n p k v => by unfold Val.pyEq; simp [Val.pyEqList_refl p, Val.pyEqList_refl v]
  theorem Val.pyEqList_refl : ∀ vs : List Val, Val.pyEqList vs vs = true
    | [] => rfl
    | v :: vs => by unfold Val.pyEqList; simp [Val.pyEq_refl v, Val.pyEqList_refl vs]
end

mutual
  theorem NHash.beq_refl : ∀ h : NHash, NHash.beq h h = true
    | .leaf v => by unfold NHash.beq; simp [Val.eq_self]
    | .apply f a k | .custom m a => by unfold NHash.beq; simp [NHash.beqList_refl a]
    | .graph h => by unfold NHash.beq; simp [NHash.beq_refl h]
  theorem NHash.beqList_refl : ∀ hs : List NHash, NHash.beqList hs hs = true
    | [] => rfl
    | h :: hs => by unfold NHash.beqList; simp [NHash.beq_refl h, NHash.beqList_refl hs]
end

mutual
  theorem hashKeyEq_refl : ∀ h : NHash, hashKeyEq h h = true
    | .leaf v => by unfold hashKeyEq; simp [Val.pyEq_refl]
    | .apply f a k | .custom m a => by unfold hashKeyEq; simp [hashKeyEq_goList_refl a]
    | .graph h => by unfold hashKeyEq; simp [hashKeyEq_refl h]
  theorem hashKeyEq_goList_refl : ∀ hs : List NHash, hashKeyEq.goList hs hs = true
    | [] => rfl
    | h :: hs => by unfold hashKeyEq.goList; simp [hashKeyEq_refl h, hashKeyEq_goList_refl hs]
end

/- Soundness, by the induction principles of the two definitions: one case for each equation, the last of which (no earlier
pattern applies) returns `false`. -/

theorem Val.eq_of_beq_both :
    (∀ a b : Val, Val.beq a b = true → a = b) ∧ (∀ a b : List Val, Val.beqList a b = true → a = b) := by
  apply Val.beq.mutual_induct (motive_1 := fun a b => Val.beq a b = true → a = b)
    (motive_2 := fun a b => Val.beqList a b = true → a = b)
  · intro _; rfl
  · intro a b h; rw [LawfulBEq.eq_of_beq h]
  · intro a b h; rw [LawfulBEq.eq_of_beq h]
  · intro a b h; rw [LawfulBEq.eq_of_beq h]
  · intro a b h; rw [LawfulBEq.eq_of_beq h]
  · intro a b ih h; rw [ih h]
  · intro a b c d ih1 ih2 h
    simp only [Val.beq, Bool.and_eq_true] at h
    rw [ih1 h.1, ih2 h.2]
  · intro f p k v g q l w ih1 ih2 h
    simp only [Val.beq, Bool.and_eq_true, beq_iff_eq] at h
    rw [h.1.1.1, ih1 h.1.1.2, h.1.2, ih2 h.2]
  · intro f c n p k v g d m q l w ih1 ih2 h
    simp only [Val.beq, Bool.and_eq_true, beq_iff_eq] at h
    rw [h.1.1.1.1.1, h.1.1.1.1.2, h.1.1.1.2, ih1 h.1.1.2, h.1.2, ih2 h.2]
  · intro t x h1 h2 h3 h4 h5 h6 h7 h8 h9 h
    cases (Val.beq.eq_10 t x h1 h2 h3 h4 h5 h6 h7 h8 h9).symm.trans h
  · intro _; rfl
  · intro a as b bs ih1 ih2 h
    simp only [Val.beqList, Bool.and_eq_true] at h
    rw [ih1 h.1, ih2 h.2]
  · intro t x h1 h2 h
    cases (Val.beqList.eq_3 t x h1 h2).symm.trans h

theorem Val.eq_of_beq : ∀ a b : Val, Val.beq a b = true → a = b := Val.eq_of_beq_both.1

theorem Val.eq_of_beqList : ∀ a b : List Val, Val.beqList a b = true → a = b := Val.eq_of_beq_both.2

theorem NHash.eq_of_beq_both :
    (∀ a b : NHash, NHash.beq a b = true → a = b) ∧ (∀ a b : List NHash, NHash.beqList a b = true → a = b) := by
  apply NHash.beq.mutual_induct (motive_1 := fun a b => NHash.beq a b = true → a = b)
    (motive_2 := fun a b => NHash.beqList a b = true → a = b)
  · intro a b h; rw [Val.eq_of_beq a b h]
  · intro f a k g b l ih h
    simp only [NHash.beq, Bool.and_eq_true, beq_iff_eq] at h
    rw [h.1.1, ih h.1.2, h.2]
  · intro a b ih h; rw [ih h]
  · intro m a n b ih h
    simp only [NHash.beq, Bool.and_eq_true, beq_iff_eq] at h
    rw [h.1, ih h.2]
  · intro t x h1 h2 h3 h4 h
    cases (NHash.beq.eq_5 t x h1 h2 h3 h4).symm.trans h
  · intro _; rfl
  · intro a as b bs ih1 ih2 h
    simp only [NHash.beqList, Bool.and_eq_true] at h
    rw [ih1 h.1, ih2 h.2]
  · intro t x h1 h2 h
    cases (NHash.beqList.eq_3 t x h1 h2).symm.trans h

theorem NHash.eq_of_beq : ∀ a b : NHash, NHash.beq a b = true → a = b := NHash.eq_of_beq_both.1

theorem NHash.eq_of_beqList : ∀ a b : List NHash, NHash.beqList a b = true → a = b := NHash.eq_of_beq_both.2

end CM
