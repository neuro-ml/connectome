/-
  CM.Proofs.RaiseC — stage 5 of `vm_correct`: what a raising task establishes (`Throws.spec`).  The exception is one
  of a user function or the error of the cache-free denotation (never an internal failure of the machine: eviction
  of an absent key, `Store` on a present or uncounted key, an evicted input — the counter invariant excludes them),
  and the call log keeps the at-most-once bound.  (That the stores stay sound is `Throws.sound`.)
-/
import CM.Proofs.OnceC
namespace CM

/-- what a raising task establishes about the denotation -/
def PostErr (g : Graph) (d : DenCfg) : Task → Err → Prop
  | .hash n, e => (den g d n).h = .error e
  | .value n, e => (den g d n).v = .error e
  | .prog n p, e => interp (ctxOf g d n) p = .error e
  | .req n r, e => interpReq (ctxOf g d n) r = .error e
  | .reqs n rsRev _, e => interpReqs (ctxOf g d n) rsRev.reverse = .error e

/-- the statement of `big_raised_c`, the fuel-level form of `Throws.spec`, which nothing else uses -/
def RaisedSpec (g : Graph) (d : DenCfg) (t : Task) (m m' : Mem) (e : Err) : Prop :=
  ((∃ fn, e = .user fn ∧ m.world.failAt ≠ []) ∨ PostErr g d t e) ∧ OnceErr m m' t.node

section
variable {F : Fam} {g : Graph} {d : DenCfg} (ok : GraphOKC g) (hF : g.HasCache → F g d)
include ok hF

/-- **What a raising run establishes.**  The exception is one of a user function (only if the world schedules one) or exactly the
error of the denotation - the machine's own failure points are excluded by the counter invariant - and the log keeps the
at-most-once bound, for every budget the task is started with. -/
theorem Throws.spec {t : Task} {m : Mem} {e : Err} {m' : Mem} (h : Throws g t m e m') :
    ∀ (hp : Bool) (G : Ghost), MemSound g d m → StoreSound F m.world → TaskOKC F g d t → CInv g m G none none → PreCC g G hp t →
      ((∃ fn, e = .user fn ∧ m.world.failAt ≠ []) ∨ PostErr g d t e) ∧
      ∀ b B K, PreL g m G hp b B K t → K ≤ 1 → OnceErr m m' t.node := by
  have ht := topo_of_base g ok.toGraphBase
  have hone := Graph.hb_add_vb_le_one g ok
  induction h with
  | @hashLeaf n m hx he =>
    intro hp G _ _ _ hi hact
    have hnin := hi.not_inputH hact hx
    exact ⟨.inr (by simp only [PostErr, den_leaf g d n he (by rw [usedInputs_contains, hnin]; rfl)]), fun _ _ _ hl hK => OnceErr.same g hone hl hK _ fun _ => rfl⟩
  | @hashProg n m e err m1 hx he _ ih =>
    intro hp G hs hw _ hi hact
    have hwf := ok.edge_wf he
    have hrun := hi.runningH ht hact hx
    obtain ⟨hA, hB⟩ := ih true G hs hw (genProg_cacheOK ok hF he true) hi ⟨hrun, fun _ => hashProg_noCur e _ hwf⟩
    refine ⟨hA.imp id fun hpe => ?_, fun b B K hl hK => hB _ B K (hl.hashProg hrun.flag he (hashProg_callsLe e _ hwf)) hK⟩
    simp only [PostErr] at hpe ⊢
    rw [den_hash d ok he, hpe]; rfl
  | @hashStore n m e x m1 hx he hr hbad =>
    intro hp G _ _ _ hi hact
    have hrun := hi.runningH ht hact hx
    obtain ⟨G1, ⟨hi1, _, _, _, hm1, hr1⟩, _⟩ := hr.inv ok true G hi ⟨hrun, fun _ => hashProg_noCur e _ (ok.edge_wf he)⟩
    have hcnt : m1.hashes.counts n ≠ none := by
      rw [hi1.ch n, hr1, toOpt_ne_none _ hact]; nofun
    exact absurd (hbad (hm1.trans hx)) (Scratch.set_ne_none hcnt)
  | @valueLeaf n m hx he =>
    intro hp G _ _ _ hi hact
    have hnin := hi.not_inputV hact hx
    exact ⟨.inr (by simp only [PostErr, den_leaf g d n he (by rw [usedInputs_contains, hnin]; rfl)]), fun _ _ _ hl hK => OnceErr.same g hone hl hK _ fun _ => rfl⟩
  | @valueProg n m e err m1 hx he _ ih =>
    intro hp G hs hw _ hi hact
    have hrun := hi.runningV ht hact hx
    obtain ⟨hA, hB⟩ := ih false G hs hw (genProg_cacheOK ok hF he false) hi ⟨hrun, nofun⟩
    refine ⟨hA.imp id fun hpe => ?_, fun b B K hl hK => hB _ B K (hl.evalProg hrun.flag he (evalProg_callsLe e _ (ok.edge_wf he))) hK⟩
    simp only [PostErr] at hpe ⊢
    rw [den_val d ok.toGraphBase he, hpe]; rfl
  | @valueStore n m e x m1 hx he hr hbad =>
    intro hp G hs hw _ hi hact
    have hrun := hi.runningV ht hact hx
    obtain ⟨G1, ⟨hi1, _, _, _, hm1, hr1⟩, pl1⟩ := hr.inv ok false G hi ⟨hrun, nofun⟩
    obtain ⟨_, hint⟩ := hr.sound ok hF hs hw (genProg_cacheOK ok hF he false)
    cases x with
    | val v =>
      have hcnt : m1.cache.counts n ≠ none := by
        rw [hi1.cc n, hr1, toOpt_ne_none _ hact]; nofun
      exact absurd (hbad v rfl (hm1.trans hx)) (Scratch.set_ne_none hcnt)
    | hash _ | hout _ _ | node _ | tup _ =>
      refine ⟨.inr ?_, fun b B K hl hK => ?_⟩
      · simp only [PostErr]
        rw [den_val d ok.toGraphBase he, show interp _ _ = _ from hint]; rfl
      · have p1 := pl1 _ B K (hl.evalProg hrun.flag he (evalProg_callsLe e _ (ok.edge_wf he)))
        exact ⟨post_le_one g hone (t := .prog n _) p1 hK, p1.frame⟩
  | @progEvict n p m x w hr hev =>
    intro hp G _ _ _ hi ⟨hrun, _⟩
    obtain ⟨_, _, hev', _⟩ := complete_step g ht m G hp n hi hrun
    exact absurd (hev.symm.trans hev') nofun
  | @progRaise n p m e w hr =>
    intro hp G hs hw htask _ _
    obtain ⟨_, hint, _, _, hlog⟩ := CacheOK.head (n := n) htask hs hw hr
    exact ⟨.inr hint.symm, fun _ _ _ hl hK => OnceErr.same g hone hl hK _ (calls_of_log hlog)⟩
  | @progReq n p m r k w e m1 hr _ ih =>
    intro hp G hs hw htask hi hpre
    obtain ⟨_, hint, hs', hw', hlog⟩ := CacheOK.head (n := n) htask hs hw hr
    obtain ⟨hA, hB⟩ := ih hp G hs' hw' trivial (hi.world w) ⟨hpre.1, fun h => (hpre.progReq hr h).1⟩
    have hfa := fixed_failAt (runEffs_fixed hr)
    refine ⟨hA.imp (fun ⟨fn, h1, h2⟩ => ⟨fn, h1, by rw [← hfa]; exact h2⟩) fun hpe => ?_, fun b B K hl hK => ?_⟩
    · simp only [PostErr] at hpe ⊢
      rw [← hint]
      simp only [interp, hpe]
    · have hB' := hB _ _ K (hl.progReq hr).2 hK
      exact ⟨hB'.1, fun j hj => (hB'.2 j hj).trans (calls_of_log hlog j)⟩
  | @progCont n p m r k w y m1 e m2 hr hy _ ih =>
    intro hp G hs hw htask hi hpre
    obtain ⟨hc', hint, hs', hw', hlog⟩ := CacheOK.head (n := n) htask hs hw hr
    have hfx := runEffs_fixed hr
    have hrun := hpre.1
    have hnc' := hpre.progReq hr
    obtain ⟨G1, ⟨hi1, fr1, kp1⟩, pl1⟩ := hy.inv ok hp G (hi.world w) ⟨hrun, fun h => (hnc' h).1⟩
    obtain ⟨⟨hs1, hw1⟩, hr1⟩ := hy.sound ok hF hs' hw' trivial
    have hky : CacheOK F g d n (k y) := by
      cases hc' with
      | req _ _ hk => exact hk y hr1
    obtain ⟨hA, hB⟩ := ih hp G1 hs1 hw1 hky hi1 ⟨hrun.step ht fr1 kp1, fun h => (hnc' h).2 y⟩
    have hfa : m1.world.failAt = m.world.failAt := fixed_failAt (hy.world.1.trans hfx)
    refine ⟨hA.imp (fun ⟨fn, h1, h2⟩ => ⟨fn, h1, by rwa [← hfa]⟩) fun hpe => ?_, fun b B K hl hK => ?_⟩
    · simp only [PostErr] at hpe ⊢
      rw [← hint]
      simp only [interp, show interpReq _ r = _ from hr1, hpe]
    · obtain ⟨hkb, hl1⟩ := hl.progReq hr
      have p1 := pl1 _ _ K hl1
      have hB' := hB _ B K (p1.progCont (hkb y)) hK
      exact ⟨hB'.1, fun j hj => ((hB'.2 j hj).trans (p1.frame j hj)).trans (calls_of_log hlog j)⟩
  | @noParent n i r m hpi hr =>
    intro hp G _ _ _ _ _
    refine ⟨.inr ?_, fun _ _ _ hl hK => OnceErr.same g hone hl hK _ fun _ => rfl⟩
    rcases hr with rfl | rfl <;> (simp only [PostErr, interpReq, ctxOf, hpi]; rfl)
  | @parentHash n i m p e m1 hpi _ ih =>
    intro hp G hs hw _ hi ⟨hrun, _⟩
    obtain ⟨hlt, hpa⟩ := hrun.parent ht hpi
    obtain ⟨hA, hB⟩ := ih hp G hs hw trivial hi hpa
    refine ⟨hA.imp id fun hpe => ?_, fun b B K hl hK => ?_⟩
    · simp only [PostErr] at hpe ⊢
      simp only [interpReq, ctxOf, hpi, hpe]; rfl
    · exact OnceErr.lift g hone hl hK hlt (hB 0 0 _ (hl.inv.parentHash hlt) (cap_pendH_le_one g hone G p _ (hl.inv p hlt)))
  | @parentHashBad n i m p x m1 hpi hr hbad =>
    intro hp G hs hw _ hi ⟨hrun, _⟩
    obtain ⟨hlt, hpa⟩ := hrun.parent ht hpi
    obtain ⟨G1, _, pl1⟩ := hr.inv ok hp G hi hpa
    obtain ⟨_, hpost⟩ := hr.sound ok hF hs hw trivial
    refine ⟨.inr ?_, fun b B K hl hK => ?_⟩
    · have hx : x.asHout = .error .internal := by cases x <;> first | rfl | exact absurd rfl (hbad _ _)
      simp only [PostErr, interpReq, ctxOf, hpi, show (den g d p).h = _ from hpost, hx]; rfl
    · have p1 := pl1 0 0 _ (hl.inv.parentHash hlt)
      exact OnceErr.lift g hone hl hK hlt ⟨post_le_one g hone p1 (cap_pendH_le_one g hone G p _ (hl.inv p hlt)), p1.frame⟩
  | @parentValue n i m p e m1 hpi _ ih =>
    intro hp G hs hw _ hi ⟨hrun, _⟩
    obtain ⟨hlt, hpa⟩ := hrun.parent ht hpi
    obtain ⟨hA, hB⟩ := ih hp G hs hw trivial hi hpa
    refine ⟨hA.imp id fun hpe => ?_, fun b B K hl hK => ?_⟩
    · simp only [PostErr] at hpe ⊢
      simp only [interpReq, ctxOf, hpi, hpe]; rfl
    · exact OnceErr.lift g hone hl hK hlt (hB 0 0 _ (hl.inv.parentValue hlt) (cap_pendVH_le_one g hone G p _ (hl.inv p hlt)))
  | @current n r m e m1 hr _ ih =>
    intro hp G hs hw _ hi hpre
    obtain rfl := hpre.current hr
    have hrun := hpre.1
    obtain ⟨hA, hB⟩ := ih false G hs hw trivial hi hrun.active
    refine ⟨hA.imp id fun hpe => ?_, fun b B K hl hK => hB 0 B K (hl.current hr) hK⟩
    simp only [PostErr] at hpe ⊢
    rcases hr with rfl | rfl <;> (simp only [interpReq, ctxOf, hpe]; rfl)
  | @currentBad n r m x m1 hr hret hbad =>
    intro hp G hs hw _ hi hpre
    obtain rfl := hpre.current hr
    have hrun := hpre.1
    obtain ⟨G1, _, pl1⟩ := hret.inv ok false G hi hrun.active
    obtain ⟨_, hpost⟩ := hret.sound ok hF hs hw trivial
    refine ⟨.inr ?_, fun b B K hl hK => ?_⟩
    · have hx : x.asHout = .error .internal := by cases x <;> first | rfl | exact absurd rfl (hbad _ _)
      rcases hr with rfl | rfl <;> (simp only [PostErr, interpReq, ctxOf, show (den g d n).h = _ from hpost, hx]; rfl)
    · have p1 := pl1 0 B K (hl.current hr)
      exact ⟨post_le_one g hone (t := .hash n) p1 hK, p1.frame⟩
  | @await n rs m e m1 _ ih =>
    intro hp G hs hw _ hi ⟨hrun, hnc⟩
    obtain ⟨hA, hB⟩ := ih hp G hs hw trivial hi ⟨hrun, fun h => noCurList_reverse rs (by simpa [Req.noCur] using hnc h)⟩
    refine ⟨hA.imp id fun hpe => ?_, fun b B K hl hK => hB 0 B K hl.await hK⟩
    simp only [PostErr, List.reverse_reverse] at hpe ⊢
    simp only [interpReq, hpe]; rfl
  | @call n fn pos kwn kwv m e w hc =>
    intro hp G _ _ _ _ _
    refine ⟨.inl ⟨fn, call_err hc⟩, fun b B K hl hK => ⟨fun j hj => ?_, fun j hj => ?_⟩⟩
    · simp only [Task.node] at hj
      rw [calls_call hc j]
      by_cases hnj : n = j
      · subst hnj
        have := hl.bud
        simp only [cost, Task.node, Req.ncalls, ↓reduceIte] at this ⊢
        omega
      · rw [if_neg hnj]
        exact pre_le_one g hone hl hK j hj
    · simp only [Task.node] at hj
      rw [calls_call hc j, if_neg (by omega)]; rfl
  | @reqsHead n r rest' acc m e m1 _ ih =>
    intro hp G hs hw _ hi hpre
    have hrun := hpre.1
    have hnc' := hpre.reqsCons
    obtain ⟨hA, hB⟩ := ih hp G hs hw trivial hi ⟨hrun, fun h => (hnc' h).1⟩
    refine ⟨hA.imp id fun hpe => ?_, fun b B K hl hK => hB 0 _ K hl.reqsHead hK⟩
    simp only [PostErr] at hpe ⊢
    simp only [List.reverse_cons, interpReqs_snoc, hpe]
  | @reqsTail n r rest' acc m y m1 e m2 hy _ ih =>
    intro hp G hs hw _ hi hpre
    have hrun := hpre.1
    have hnc' := hpre.reqsCons
    obtain ⟨G1, ⟨hi1, fr1, kp1⟩, pl1⟩ := hy.inv ok hp G hi ⟨hrun, fun h => (hnc' h).1⟩
    obtain ⟨⟨hs1, hw1⟩, hr1⟩ := hy.sound ok hF hs hw trivial
    obtain ⟨hA, hB⟩ := ih hp G1 hs1 hw1 trivial hi1 ⟨hrun.step ht fr1 kp1, fun h => (hnc' h).2⟩
    have hfa : m1.world.failAt = m.world.failAt := fixed_failAt hy.world.1
    refine ⟨hA.imp (fun ⟨fn, h1, h2⟩ => ⟨fn, h1, by rwa [← hfa]⟩) fun hpe => ?_, fun b B K hl hK => ?_⟩
    · simp only [PostErr] at hpe ⊢
      simp only [List.reverse_cons, interpReqs_snoc, show interpReq _ r = _ from hr1, hpe]; rfl
    · have p1 := pl1 0 _ K hl.reqsHead
      have hB' := hB 0 B K p1.reqsTail hK
      exact ⟨hB'.1, fun j hj => (hB'.2 j hj).trans (p1.frame j hj)⟩

end

theorem big_raised_c (F : Fam) (g : Graph) (d : DenCfg) (ok : GraphOKC g) : ∀ (f : Nat) (t : Task) (hp : Bool) (m : Mem) (G : Ghost)
    (e : Err) (m' : Mem) (b B K : Nat), MemSoundC F g d m → TaskOKC F g d t → CInv g m G none none → PreCC g G hp t →
    PreL g m G hp b B K t → K ≤ 1 → big g f t m = .raised e m' → RaisedSpec g d t m m' e := by
  intro f t hp m G e m' b B K hs htask hi hpre hl hK hb
  obtain ⟨hA, hB⟩ := (Throws.of_big hb).spec ok (fun _ => hs.fam) hp G hs.mem hs.stores htask hi hpre
  exact ⟨hA, hB b B K hl hK⟩

end CM
