/-
  CM.Proofs.WorldFrame — what a returning run never changes in the world: the fault plan, the sets of impure and constant
  functions and the call number; and what it only extends: the call log.  (A raising run is a returning prefix and one
  failing step; the proofs about it read these facts off the prefix.)
-/
import CM.Proofs.Deriv
namespace CM

/-- the parts of the world that no step of a run writes -/
def World.fixed (w : World) : List Nat × List String × List (String × Val) × Nat := (w.failAt, w.impureFns, w.constFns, w.callNo)

theorem fixed_failAt {w w' : World} (h : w'.fixed = w.fixed) : w'.failAt = w.failAt := congrArg (·.1) h

theorem fixed_parts {w w' : World} (h : w'.fixed = w.fixed) :
    w'.constFns = w.constFns ∧ w'.impureFns = w.impureFns ∧ w'.callNo = w.callNo := by
  simp only [World.fixed, Prod.mk.injEq] at h
  exact ⟨h.2.2.1, h.2.1, h.2.2.2⟩

theorem doOp_stores (w : World) (op : StoreOp) : ∃ s, (w.doOp op).2 = { w with stores := s } := by
  cases op with
  | get s _ | set s _ _ => simp only [World.doOp]; cases w.stores[s]? <;> exact ⟨_, rfl⟩

theorem runEffs_stores : ∀ (p : Prog) (w : World), ∃ s, (runEffs p w).2 = { w with stores := s }
  | .ret _, w | .raise _, w | .req _ _, w => ⟨w.stores, rfl⟩
  | .eff op k, w => by
    obtain ⟨s1, h1⟩ := doOp_stores w op
    obtain ⟨s2, h2⟩ := runEffs_stores (k (w.doOp op).1) (w.doOp op).2
    exact ⟨s2, by rw [runEffs, h2, h1]⟩

theorem runEffs_fixed {p p' : Prog} {w w' : World} (h : runEffs p w = (p', w')) : w'.fixed = w.fixed := by
  obtain ⟨s, hs⟩ := runEffs_stores p w; rw [h] at hs; cases hs; rfl

theorem runEffs_log {p p' : Prog} {w w' : World} (h : runEffs p w = (p', w')) : w'.log = w.log := by
  obtain ⟨s, hs⟩ := runEffs_stores p w; rw [h] at hs; cases hs; rfl

theorem call_world {w w' : World} {n : Nat} {f : String} {pos : List Val} {kwn : List String} {kwv : List Val} {r : Except Err Val}
    (h : w.call n f pos kwn kwv = (r, w')) : w' = { w with serial := w.serial + 1, log := ⟨n, f, pos, kwn, kwv⟩ :: w.log } := by
  refine (congrArg (·.2) h).symm.trans ?_
  unfold World.call
  simp only
  split
  · rfl
  · split
    · rfl
    · split <;> rfl

theorem call_err {w w' : World} {n : Nat} {f : String} {pos : List Val} {kwn : List String} {kwv : List Val} {e : Err}
    (h : w.call n f pos kwn kwv = (.error e, w')) : e = .user f ∧ w.failAt ≠ [] := by
  unfold World.call at h
  simp only at h
  split at h
  · next hc => exact ⟨(Except.error.inj (congrArg (·.1) h)).symm, fun h0 => by rw [h0] at hc; cases hc⟩
  · revert h
    cases w.constFns.find? (·.1 == f) with
    | some p => exact fun h => nomatch congrArg (·.1) h
    | none => cases w.impureFns.contains f <;> exact fun h => nomatch congrArg (·.1) h

theorem Returns.world {g : Graph} {t : Task} {m : Mem} {x : Item} {m' : Mem} (h : Returns g t m x m') :
    m'.world.fixed = m.world.fixed ∧ ∃ pre, m'.world.log = pre ++ m.world.log := by
  induction h with
  | hashHit | valueHit | reqsNil => exact ⟨rfl, [], rfl⟩
  | hashRun _ _ _ _ _ ih | valueRun _ _ _ _ _ ih | parentHash _ _ ih | parentValue _ _ ih | currentHash _ ih | payload _ ih
    | await _ ih => exact ih
  | progRet hr => exact ⟨runEffs_fixed hr, [], runEffs_log hr⟩
  | progReq hr _ _ ihr ihk =>
    obtain ⟨pre1, hp1⟩ := ihr.2
    obtain ⟨pre2, hp2⟩ := ihk.2
    exact ⟨(ihk.1.trans ihr.1).trans (runEffs_fixed hr), pre2 ++ pre1,
      by rw [hp2, hp1, List.append_assoc]; exact congrArg (fun l => pre2 ++ (pre1 ++ l)) (runEffs_log hr)⟩
  | @call n fn pos kwn kwv m _ w hc =>
    obtain rfl := call_world hc
    exact ⟨rfl, [_], rfl⟩
  | reqsCons _ _ ihr ihk =>
    obtain ⟨pre1, hp1⟩ := ihr.2
    obtain ⟨pre2, hp2⟩ := ihk.2
    exact ⟨ihk.1.trans ihr.1, pre2 ++ pre1, by rw [hp2, hp1, List.append_assoc]⟩

end CM
