/-
  CM.Proofs.BagChecks — the checks of `normalize_bag` (`RawBag.checks`) as propositions: all of them (`RawBag.checks_ok_iff`), and the
  part of them that well-formedness rests on (`Checked`).
-/
import CM.Proofs.BagStruct
namespace CM

theorem RawBag.checks_ok_iff {r : RawBag} {b : Bag} : r.checks b = .ok () ↔
    (names r.inputs).Nodup ∧ (names r.outputs).Nodup ∧ (∀ x ∈ names r.outputs, r.virt.mem x = false) ∧
    OutsNodup b.edges ∧ acyclicB b.edges = true ∧ (∀ i ∈ r.inputs, i ∈ edgeNodes b.edges ++ b.outputs) ∧
    (∀ i ∈ r.inputs, ∀ e ∈ b.edges, e.out ≠ i) ∧ ∀ o ∈ r.optional, o ∈ edgeNodes b.edges ++ b.outputs := by
  simp only [RawBag.checks, checkDups_bind_ok, guard_bind_ok, guard_ok]
  simp only [multipleIncoming_eq_false, List.any_eq_false, Bool.not_eq_true, Bool.not_eq_false', isLeafIn_eq_true,
    List.contains_iff_mem]

/-- The facts of `RawBag.checks_ok_iff` that `core_wf` and the theorems after it use.  Left out: acyclicity, the `KeyError` test on the
inputs and rule 5 on the optional nodes - nothing downstream of `mkBag_ok` needs them (the theorems about compiling a bag take
acyclicity as a hypothesis of their own). -/
structure Checked (r : RawBag) (b : Bag) : Prop where
  /-- no two inputs of one name -/
  inDup : (names r.inputs).Nodup
  /-- no two outputs of one name -/
  outDup : (names r.outputs).Nodup
  rule2a : ∀ n ∈ r.outputs, r.virt.mem n.name = false
  /-- rule 2 in the form `BDen.det` takes; it follows from `outs` (`outsNodup_single`) -/
  single : SingleIncoming b.edges
  /-- rule 2: no two EDGES with one output node (not about `b.outputs`) -/
  outs : OutsNodup b.edges
  leaves : ∀ n ∈ r.inputs, ∀ e ∈ b.edges, e.out ≠ n

theorem checks_ok {r : RawBag} {b : Bag} (h : r.checks b = .ok ()) : Checked r b := by
  obtain ⟨hin, hout, h2a, houts, -, -, hleaf, -⟩ := RawBag.checks_ok_iff.1 h
  exact ⟨hin, hout, List.forall_mem_map.1 h2a, outsNodup_single houts, houts, hleaf⟩

theorem mkBag_ok {r : RawBag} {c : Bag} (h : mkBag r = .ok c) : c = r.core ∧ Checked r r.core := by
  obtain ⟨_, hc, h⟩ := bind_eq_ok.1 h
  exact ⟨(Except.ok.inj h).symm, checks_ok hc⟩

end CM
