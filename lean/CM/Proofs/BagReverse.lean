/-
  CM.Proofs.BagReverse — `Context.reverse` (containers/context.py) at the node level: when it returns and what (`reverse_bag_ok`,
  `reverse_chain_ok`), which names come out of the backward pass (`backNames`: only those with an inverse path, `HasPath`), which edges
  it adds (identity edges between two nodes of one name: `reverse_edges`) and which nodes they join (`Feeds`, `Passes`).
-/
import CM.Proofs.BagStruct
namespace CM

/-- the stitches of one layer: each backward input is joined to the incoming node of its name -/
def stitchOf (bi outs : List BNode) : List BEdge :=
  bi.filterMap fun n => (byName outs n.name).map fun o => identityEdge o n

/-- the `add inheritance` loop of `BagContext.reverse`: the clones of the incoming nodes whose names the layer inherits backwards and
does not invert, the edges to them, the counter afterwards -/
abbrev passClones (inh : NameSet) (bo outs : List BNode) (next : Nat) : List BNode × List BEdge × Nat :=
  cloneEdges false (outs.filter fun m => inh.mem m.name && !(names bo).contains m.name) next

theorem passClones_names (inh : NameSet) (bo outs : List BNode) (next : Nat) :
    names (passClones inh bo outs next).1 = (names outs).filter fun x => inh.mem x && !(names bo).contains x :=
  (cloneEdges_names ..).trans (names_filter outs fun x => inh.mem x && !(names bo).contains x)

theorem reverse_bag_ok {bi bo : List BNode} {inh : NameSet} {outs : List BNode} {next : Nat} {o' : List BNode} {es : List BEdge}
    {pp : List BNode} {n' : Nat} : (BCtx.bag bi bo inh).reverse outs next = .ok (o', es, pp, n') ↔
      (names outs).Nodup ∧ (names bo).Nodup ∧ bo ++ (passClones inh bo outs next).1 = o' ∧
        stitchOf bi outs ++ (passClones inh bo outs next).2.1 = es ∧ (passClones inh bo outs next).1 = pp ∧
        (passClones inh bo outs next).2.2 = n' := by
  simp only [BCtx.reverse, checkDups_bind_ok, Except.ok.injEq, Prod.mk.injEq, stitchOf]

theorem reverse_chain_ok {p c : BCtx} {outs : List BNode} {next : Nat} {o' : List BNode} {es : List BEdge} {pp : List BNode}
    {n' : Nat} : (BCtx.chain p c).reverse outs next = .ok (o', es, pp, n') ↔
      ∃ o1 e1 p1 n1 e2 p2, c.reverse outs next = .ok (o1, e1, p1, n1) ∧ p.reverse o1 n1 = .ok (o', e2, p2, n') ∧
        e1 ++ e2 = es ∧ p1 ++ p2 = pp := by
  simp only [BCtx.reverse, bind_eq_ok, Prod.exists, Except.ok.injEq, Prod.mk.injEq]
  constructor
  · rintro ⟨o1, e1, p1, n1, h1, _, e2, p2, _, h2, rfl, rfl, rfl, rfl⟩
    exact ⟨o1, e1, p1, n1, e2, p2, h1, h2, rfl, rfl⟩
  · rintro ⟨o1, e1, p1, n1, e2, p2, h1, h2, rfl, rfl⟩
    exact ⟨o1, e1, p1, n1, h1, _, e2, p2, _, h2, rfl, rfl, rfl, rfl⟩

theorem bag_ctx_reverse (bi bo : List BNode) (inh : NameSet) (outs : List BNode) (next : Nat) (hnd : (names outs).Nodup)
    (hbo : (names bo).Nodup) :
    (BCtx.bag bi bo inh).reverse outs next =
      .ok (bo ++ (cloneEdges false (outs.filter fun m => inh.mem m.name && !(names bo).contains m.name) next).1,
           (bi.filterMap fun n => (byName outs n.name).map fun o => identityEdge o n) ++
             (cloneEdges false (outs.filter fun m => inh.mem m.name && !(names bo).contains m.name) next).2.1,
           (cloneEdges false (outs.filter fun m => inh.mem m.name && !(names bo).contains m.name) next).1,
           (cloneEdges false (outs.filter fun m => inh.mem m.name && !(names bo).contains m.name) next).2.2) :=
  reverse_bag_ok.2 ⟨hnd, hbo, rfl, rfl, rfl, rfl⟩

/-- the context of a wrapped function (`function_to_bag`: no backward inputs or outputs, inherit = its output names) returns the clones of
the nodes whose names it inherits, and the pass edges -/
theorem fn_ctx_reverse (inhf : NameSet) (outs : List BNode) (next : Nat) (hnd : (names outs).Nodup) :
    (BCtx.bag [] [] inhf).reverse outs next =
      .ok ((cloneEdges false (outs.filter fun m => inhf.mem m.name && !(names []).contains m.name) next).1,
           (cloneEdges false (outs.filter fun m => inhf.mem m.name && !(names []).contains m.name) next).2.1,
           (cloneEdges false (outs.filter fun m => inhf.mem m.name && !(names []).contains m.name) next).1,
           (cloneEdges false (outs.filter fun m => inhf.mem m.name && !(names []).contains m.name) next).2.2) :=
  bag_ctx_reverse [] [] inhf outs next hnd List.nodup_nil

theorem chain_reverse_eq {p c : BCtx} {outs : List BNode} {next : Nat} {o1 : List BNode} {e1 : List BEdge} {p1 : List BNode} {n1 : Nat}
    {o2 : List BNode} {e2 : List BEdge} {p2 : List BNode} {n2 : Nat} (h1 : c.reverse outs next = .ok (o1, e1, p1, n1))
    (h2 : p.reverse o1 n1 = .ok (o2, e2, p2, n2)) : (BCtx.chain p c).reverse outs next = .ok (o2, e1 ++ e2, p1 ++ p2, n2) :=
  reverse_chain_ok.2 ⟨_, _, _, _, _, _, h1, h2, rfl, rfl⟩

/-- the backward outputs of the FIRST layer of a chain are among the outputs of the reversed chain -/
theorem reverse_chain_bag_outputs (bi bo : List BNode) (inh : NameSet) (c : BCtx) (outs : List BNode) (next : Nat)
    (o' : List BNode) (es : List BEdge) (pp : List BNode) (n' : Nat)
    (h : (BCtx.chain (.bag bi bo inh) c).reverse outs next = .ok (o', es, pp, n')) : ∀ n ∈ bo, n ∈ o' := by
  obtain ⟨_, _, _, _, _, _, _, h2, _⟩ := reverse_chain_ok.1 h
  obtain ⟨_, _, rfl, _⟩ := reverse_bag_ok.1 h2
  exact fun n hn => List.mem_append_left _ hn

/-- the names that come out of a context, given the names that go in (a function of names only) -/
def BCtx.backNames : BCtx → List String → Option (List String)
  | .no, _ => none
  | .ident, ns => some ns
  | .bag _ outputs inherit, ns =>
    some (names outputs ++ ns.filter fun n => inherit.mem n && !(names outputs).contains n)
  | .chain p c, ns => (c.backNames ns).bind p.backNames

/-- **`reverse` acts on names as `backNames`**: the names of the new outputs depend on the names that go in only. -/
theorem reverse_names : ∀ (ctx : BCtx) (outs : List BNode) (next : Nat) (o : List BNode) (e : List BEdge)
    (p : List BNode) (n' : Nat), ctx.reverse outs next = .ok (o, e, p, n') → ctx.backNames (names outs) = some (names o) := by
  intro ctx outs next o e p n' h
  induction ctx generalizing outs next o e p n' with
  | no => cases h
  | ident => cases h; rfl
  | bag inputs outputs inherit =>
    obtain ⟨_, _, rfl, _⟩ := reverse_bag_ok.1 h
    rw [BCtx.backNames, names_append, passClones_names]
  | chain prev cur ihp ihc =>
    obtain ⟨o1, e1, p1, n1, e2, p2, h1, h2, rfl, rfl⟩ := reverse_chain_ok.1 h
    rw [BCtx.backNames, ihc (h := h1)]
    exact ihp (h := h2)

/-- a name has an inverse path through a context: the layer inverts it itself, or passes it on backwards and it came in;
through a chain: through the current (later) layer first, then through the previous ones -/
def BCtx.HasPath : BCtx → List String → String → Prop
  | .no, _, _ => False
  | .ident, ns, x => x ∈ ns
  | .bag _ outputs inherit, ns, x => x ∈ names outputs ∨ (inherit.mem x = true ∧ x ∈ ns)
  | .chain p c, ns, x => ∃ mid, c.backNames ns = some mid ∧ p.HasPath mid x

/-- **Only names with an inverse path come out**, for every chain of contexts (induction on the context). -/
theorem backNames_path : ∀ (ctx : BCtx) (ns res : List String) (x : String),
    ctx.backNames ns = some res → x ∈ res → ctx.HasPath ns x := by
  intro ctx ns res x h hx
  induction ctx generalizing ns res with
  | no => cases h
  | ident => cases h; exact hx
  | bag _ outputs inherit =>
    cases h
    simp only [List.mem_append, List.mem_filter, Bool.and_eq_true] at hx
    exact hx.imp_right fun ⟨hx, hi, _⟩ => ⟨hi, hx⟩
  | chain p c ihp ihc =>
    obtain ⟨mid, hc, h⟩ := Option.bind_eq_some_iff.1 h
    exact ⟨mid, hc, ihp (h := h) (hx := hx)⟩

theorem bag_drops {inputs outputs : List BNode} {inherit : NameSet} {ns res : List String} {x : String}
    (h : (BCtx.bag inputs outputs inherit).backNames ns = some res) (hno : x ∉ names outputs)
    (hni : inherit.mem x = false) : x ∉ res := by
  intro hx
  rcases backNames_path _ ns res x h hx with h1 | ⟨h2, _⟩
  · exact hno h1
  · rw [hni] at h2; cases h2

/-- the backward pass of a chain handles the LATER layer first: the names that reach the earlier layers are the ones the
later layer returns -/
theorem chain_order (p c : BCtx) (ns : List String) :
    (BCtx.chain p c).backNames ns = (c.backNames ns).bind p.backNames := rfl

/-- an identity edge between two nodes of one name: the form of every edge `reverse` adds (`reverse_edges`), whether it stitches a node
that came in to a backward input or passes it on to a fresh clone - the definition does not tell the two apart -/
def StitchOrPass (e : BEdge) : Prop :=
  e.edge = .identity ∧ ∃ i o, e.ins = [i] ∧ e.out = o ∧ i.name = o.name

theorem reverse_edges {ctx : BCtx} {outs : List BNode} {next : Nat} {o : List BNode} {es : List BEdge} {p : List BNode} {n' : Nat}
    (h : ctx.reverse outs next = .ok (o, es, p, n')) : ∀ e ∈ es, StitchOrPass e := by
  induction ctx generalizing outs next o es p n' with
  | no => cases h
  | ident => cases h; exact fun _ he => nomatch he
  | bag inputs outputs inherit =>
    obtain ⟨_, _, _, rfl, _⟩ := reverse_bag_ok.1 h
    intro e he
    rcases List.mem_append.1 he with he | he
    · obtain ⟨n, _, hn⟩ := List.mem_filterMap.1 he
      obtain ⟨o', hb, rfl⟩ := Option.map_eq_some_iff.1 hn
      exact ⟨rfl, o', n, rfl, rfl, (byName_some hb).2⟩
    · obtain ⟨m, _, c, _, hn, rfl⟩ := mem_cloneEdges he
      exact ⟨rfl, m, c, rfl, rfl, hn.symm⟩
  | chain prev cur ihp ihc =>
    obtain ⟨o1, e1, p1, n1, e2, p2, h1, h2, rfl, rfl⟩ := reverse_chain_ok.1 h
    intro e he
    exact (List.mem_append.1 he).elim (ihc h1 e) (ihp h2 e)

/-- which node feeds the backward input `n` when the context is reversed on the nodes `outs` that came in -/
inductive Feeds : BCtx → List BNode → Nat → BNode → BNode → Prop
  /-- a layer: its backward input is fed by the node of the same name that came in -/
  | bag {bi bo inh outs next n o} : n ∈ bi → byName outs n.name = some o → Feeds (.bag bi bo inh) outs next n o
  /-- the later layer of a chain sees what came in -/
  | later {p c outs next n o} : Feeds c outs next n o → Feeds (.chain p c) outs next n o
  /-- the earlier layer of a chain sees what the later layer's backward pass returned -/
  | earlier {p c outs next n o o1 e1 p1 n1} : c.reverse outs next = .ok (o1, e1, p1, n1) → Feeds p o1 n1 n o →
      Feeds (.chain p c) outs next n o

/-- **The stitches of `Context.reverse`**: every feeding pair is joined by an identity edge among the new edges. -/
theorem reverse_feeds : ∀ (ctx : BCtx) (outs : List BNode) (next : Nat) (o' : List BNode) (es : List BEdge)
    (pp : List BNode) (n' : Nat), ctx.reverse outs next = .ok (o', es, pp, n') →
    ∀ n o, Feeds ctx outs next n o → identityEdge o n ∈ es := by
  intro ctx outs next o' es pp n' h n o hf
  induction hf generalizing o' es pp n' with
  | bag hn hb =>
    obtain ⟨_, _, _, rfl, _⟩ := reverse_bag_ok.1 h
    exact List.mem_append_left _ (List.mem_filterMap.2 ⟨_, hn, by rw [hb]; rfl⟩)
  | later _ ih =>
    obtain ⟨_, _, _, _, _, _, h1, _, rfl, _⟩ := reverse_chain_ok.1 h
    exact List.mem_append_left _ (ih _ _ _ _ h1)
  | earlier hr _ ih =>
    obtain ⟨_, _, _, _, _, _, h1, h2, rfl, _⟩ := reverse_chain_ok.1 h
    cases hr.symm.trans h1
    exact List.mem_append_right _ (ih _ _ _ _ h2)

/-- which node the backward pass hands on unchanged: `c` is the fresh clone `Context.reverse` creates for the node `n` that came in,
because the layer inherits the name backwards and has no inverse field of that name -/
inductive Passes : BCtx → List BNode → Nat → BNode → BNode → Prop
  | bag {bi bo inh outs next n c} :
      c ∈ (cloneEdges false (outs.filter fun m => inh.mem m.name && !(names bo).contains m.name) next).1 →
      identityEdge n c ∈ (cloneEdges false (outs.filter fun m => inh.mem m.name && !(names bo).contains m.name) next).2.1 →
      Passes (.bag bi bo inh) outs next n c
  | later {p c' outs next n c} : Passes c' outs next n c → Passes (.chain p c') outs next n c
  | earlier {p c' outs next n c o1 e1 p1 n1} : c'.reverse outs next = .ok (o1, e1, p1, n1) → Passes p o1 n1 n c →
      Passes (.chain p c') outs next n c

/-- a layer hands on every incoming node whose name it inherits backwards and does not invert itself -/
theorem bag_pass_exists (bi bo : List BNode) (inh : NameSet) (outs : List BNode) (next : Nat) (n : BNode) (hn : n ∈ outs)
    (hi : inh.mem n.name = true) (hb : (names bo).contains n.name = false) :
    ∃ c, c.name = n.name ∧ Passes (.bag bi bo inh) outs next n c := by
  have hmem : n ∈ outs.filter fun m => inh.mem m.name && !(names bo).contains m.name := by
    simp only [List.mem_filter, hn, hi, hb]; trivial
  obtain ⟨c, hc, hname, he⟩ := cloneEdges_of_source (flip := false) (k := next) hmem
  exact ⟨c, hname, .bag hc he⟩

/-- the pass-through edges are among the edges `reverse` creates -/
theorem reverse_passes : ∀ (ctx : BCtx) (outs : List BNode) (next : Nat) (o' : List BNode) (es : List BEdge)
    (pp : List BNode) (n' : Nat), ctx.reverse outs next = .ok (o', es, pp, n') →
    ∀ n c, Passes ctx outs next n c → identityEdge n c ∈ es := by
  intro ctx outs next o' es pp n' h n c hp
  induction hp generalizing o' es pp n' with
  | bag _ he =>
    obtain ⟨_, _, _, rfl, _⟩ := reverse_bag_ok.1 h
    exact List.mem_append_right _ he
  | later _ ih =>
    obtain ⟨_, _, _, _, _, _, h1, _, rfl, _⟩ := reverse_chain_ok.1 h
    exact List.mem_append_left _ (ih _ _ _ _ h1)
  | earlier hr _ ih =>
    obtain ⟨_, _, _, _, _, _, h1, h2, rfl, _⟩ := reverse_chain_ok.1 h
    cases hr.symm.trans h1
    exact List.mem_append_right _ (ih _ _ _ _ h2)

end CM
