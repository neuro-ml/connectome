/-
  CM.Proofs.BagMain — one connect_bags step through the function the model runs; chains.
-/
import CM.Proofs.BagChecks
import CM.Proofs.BagField
import CM.Proofs.BagWF
import CM.Proofs.BagShift
namespace CM

theorem connectBags_ok {l r0 c : Bag} (h : connectBags l r0 = .ok c) :
    c = connected l (r0.shift l.next) ∧ Checked (connectRaw l (r0.shift l.next)) c := by
  simp only [connectBags, checkDups_bind_ok] at h
  obtain ⟨h1, h2⟩ := mkBag_ok h.2.2.2
  exact ⟨h1, h1 ▸ h2⟩

/-- **One `connect_bags` step, through the function the model runs** (C02): well-formedness is kept; the result exposes
the right bag's fields, computed from the left bag's fields, plus the left fields the right bag passes on, and nothing
else; a name still reaches the raw input of the whole pipeline iff both bags let it through. -/
theorem connect_step {l r0 c : Bag} (hl : l.WF) (hr : r0.WF) (h : connectBags l r0 = .ok c) :
    c.WF ∧
    (∀ x t, c.Field x t ↔ (∃ t0, r0.Field x t0 ∧ Glue l t0 t) ∨ (passes l r0 x = true ∧ l.Field x t)) ∧
    (∀ x, x ∈ names c.outputs ↔ x ∈ names r0.outputs ∨ (x ∈ names l.outputs ∧ passes l r0 x = true)) ∧
    (∀ x, c.virt.mem x = (l.virt.mem x && r0.virt.mem x)) := by
  obtain ⟨hc, hchk⟩ := connectBags_ok h
  have hs := sep_shift hl hr
  subst hc
  refine ⟨connected_wf hs hchk, ?_, ?_, ?_⟩
  · intro x t
    rw [connected_field hs hchk.single, passes_shift]
    simp only [field_shift]
  · intro x
    rw [connected_names hs, passes_shift, shift_outputs, names_shift]
  · intro x
    rw [connected_virt hs, shift_virt]

/-- a chain of layers: `connect(head, *tail)` -/
def connectAll (head : Bag) (tail : List Bag) : Except BagErr Bag := tail.foldlM connectBags head

/-- every bag a chain goes through is well-formed: no later step can meet a malformed operand -/
theorem connectAll_wf {head c : Bag} {tail : List Bag} (hh : head.WF) (ht : ∀ b ∈ tail, b.WF)
    (h : connectAll head tail = .ok c) : c.WF := by
  induction tail generalizing head with
  | nil => cases h; exact hh
  | cons b bs ih =>
    rw [connectAll, List.foldlM_cons, bind_eq_ok] at h
    obtain ⟨c1, hc1, h⟩ := h
    exact ih (connect_step hh (ht b (by simp)) hc1).1 (fun b' hb' => ht b' (by simp [hb'])) h

/-- If the right bag `b` defines the field `x` as `t0`, the field `x` of the connected bag is exactly what `Glue l` makes of `t0`: a
well-formed `b` has one term for the name and does not pass the name on. -/
theorem connect_defined {l b c : Bag} (hl : l.WF) (hbw : b.WF) (hc : connectBags l b = .ok c) {x : String} {t0 : BTerm}
    (hfb : b.Field x t0) (t : BTerm) : c.Field x t ↔ Glue l t0 t := by
  rw [(connect_step hl hbw hc).2.1]
  constructor
  · rintro (⟨t1, h1, hg⟩ | ⟨hp, _⟩)
    · exact hbw.field_det hfb h1 ▸ hg
    · rw [passes_of_output hbw hfb.mem_names] at hp
      cases hp
  · exact fun hg => Or.inl ⟨_, hfb, hg⟩

end CM
