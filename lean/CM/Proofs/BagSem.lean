/-
  CM.Proofs.BagSem — what a node of a bag computes (`BDen`), as a relation on the node-level model `CM.Model.Bag`: its inversion lemmas
  (`den_input_inv`, `den_missing_inv`, `den_edge_inv`), one term per node under rule 2 (`BDen.det`), identity edges are transparent
  (`den_identity_edge`), and the frame lemma (`BDen.frame`): a region of a bag that is closed under predecessors computes the same in
  every bag that agrees with it on that region.  At the end `BTerm.NoMissing`: the terms without a `missing` leaf.
-/
import CM.Model.Bag
import CM.Proofs.Basics
namespace CM

/-- What a node computes: a term over the names of the bag's inputs.  A leaf that is no input is `missing`
(an unreachable input, by name). -/
inductive BTerm where
  | inp (name : String)
  | missing (name : String)
  | node (e : EdgeK) (args : List BTerm)
  deriving Inhabited

/-- `BDen b n t`: the node `n` of the bag `b` computes `t`.  Identity edges are transparent (they forward value and
hash of their parent: `IdentityEdge`).  The parents of an edge are paired with their terms by `zip` and not by `All2`: with a premise
`∀ p ∈ zip ..` this is a plain inductive predicate and `induction` gives the hypothesis for every parent (lemmas: `zip_unique`, `zip_choice`,
`zip_mid` in `Basics`). -/
inductive BDen (b : Bag) : BNode → BTerm → Prop
  | input {n} : n ∈ b.inputs → BDen b n (.inp n.name)
  | missing {n} : n ∉ b.inputs → (∀ e ∈ b.edges, e.out ≠ n) → BDen b n (.missing n.name)
  | ident {n p t} (e : BEdge) : n ∉ b.inputs → e ∈ b.edges → e.out = n → e.edge = .identity → e.ins = [p] →
      BDen b p t → BDen b n t
  | edge {n ts} (e : BEdge) : n ∉ b.inputs → e ∈ b.edges → e.out = n → e.edge ≠ .identity →
      e.ins.length = ts.length → (∀ p ∈ e.ins.zip ts, BDen b p.1 p.2) → BDen b n (.node e.edge ts)

/-- rule 2 of `normalize_bag` as a proposition -/
def SingleIncoming (es : List BEdge) : Prop :=
  ∀ e₁ ∈ es, ∀ e₂ ∈ es, e₁.out = e₂.out → e₁ = e₂

/-- rule 2 of `normalize_bag`, as lists: no two edges (positions of the list) with the same output -/
def OutsNodup (es : List BEdge) : Prop := (es.map (·.out)).Nodup

theorem outsNodup_single {es : List BEdge} (h : OutsNodup es) : SingleIncoming es := inj_of_nodup_map h

theorem den_input_inv {b : Bag} {n : BNode} {t : BTerm} (hi : n ∈ b.inputs) (h : BDen b n t) : t = .inp n.name := by
  cases h with
  | input _ => rfl
  | missing hn _ | ident _ hn _ _ _ _ _ | edge _ hn _ _ _ _ _ => exact absurd hi hn

theorem den_missing_inv {b : Bag} {n : BNode} {t : BTerm} (hn : n ∉ b.inputs) (hno : ∀ e ∈ b.edges, e.out ≠ n)
    (h : BDen b n t) : t = .missing n.name := by
  cases h with
  | input hi => exact absurd hi hn
  | missing _ _ => rfl
  | ident e _ he ho _ _ _ | edge e _ he ho _ _ _ => exact absurd ho (hno e he)

theorem den_edge_inv {b : Bag} (hs : SingleIncoming b.edges) {e : BEdge} (he : e ∈ b.edges) (hn : e.out ∉ b.inputs)
    {t : BTerm} (h : BDen b e.out t) :
    (e.edge = .identity ∧ ∃ p, e.ins = [p] ∧ BDen b p t) ∨
    (e.edge ≠ .identity ∧ ∃ ts, t = .node e.edge ts ∧ e.ins.length = ts.length ∧ ∀ p ∈ e.ins.zip ts, BDen b p.1 p.2) := by
  cases h with
  | input hi => exact absurd hi hn
  | missing _ hno => exact absurd rfl (hno e he)
  | ident e' _ he' ho hk hi hp =>
    cases hs e' he' e he ho
    exact .inl ⟨hk, _, hi, hp⟩
  | edge e' _ he' ho hk hlen hp =>
    cases hs e' he' e he ho
    exact .inr ⟨hk, _, rfl, hlen, hp⟩

theorem BDen.det {b : Bag} (hs : SingleIncoming b.edges) {n : BNode} {t₁ t₂ : BTerm}
    (h₁ : BDen b n t₁) (h₂ : BDen b n t₂) : t₁ = t₂ := by
  induction h₁ generalizing t₂ with
  | input hi => exact (den_input_inv hi h₂).symm
  | missing hn hno => exact (den_missing_inv hn hno h₂).symm
  | ident e hn he ho hk hi _ ih =>
    subst ho
    obtain ⟨_, p', hi', hp'⟩ := (den_edge_inv hs he hn h₂).resolve_right fun h => h.1 hk
    cases hi.symm.trans hi'
    exact ih hp'
  | edge e hn he ho hk hlen _ ih =>
    subst ho
    obtain ⟨_, ts', rfl, hlen', hl'⟩ := (den_edge_inv hs he hn h₂).resolve_left fun h => hk h.1
    rw [zip_unique (BDen b) e.ins _ _ hlen hlen' (fun p hp t' ht' => ih p hp ht') hl']

/-- **An identity edge is transparent**: its output computes exactly what its input computes. -/
theorem den_identity_edge {b : Bag} (hs : SingleIncoming b.edges) {p q : BNode} (he : identityEdge p q ∈ b.edges)
    (hq : q ∉ b.inputs) (t : BTerm) : BDen b q t ↔ BDen b p t := by
  refine ⟨fun h => ?_, .ident _ hq he rfl rfl rfl⟩
  obtain ⟨_, p', hi, hd⟩ := (den_edge_inv hs he hq h).resolve_right fun h => h.1 rfl
  cases hi
  exact hd

/-- `b'` agrees with `b` on the region `S`: the same inputs and the same incoming edges for the nodes of `S`,
and `S` is closed under the predecessors it has in `b'`. -/
structure AgreeOn (S : BNode → Prop) (b b' : Bag) : Prop where
  inputs : ∀ n, S n → (n ∈ b'.inputs ↔ n ∈ b.inputs)
  edges : ∀ e, S e.out → (e ∈ b'.edges ↔ e ∈ b.edges)
  closed : ∀ e ∈ b'.edges, S e.out → ∀ i ∈ e.ins, S i

theorem BDen.frame_to {S : BNode → Prop} {b b' : Bag} (ha : AgreeOn S b b') {n : BNode} {t : BTerm}
    (hn : S n) (h : BDen b' n t) : BDen b n t := by
  induction h with
  | @input n hi => exact .input ((ha.inputs n hn).1 hi)
  | @missing n hni hno =>
    refine .missing (fun h => hni ((ha.inputs n hn).2 h)) ?_
    intro e he ho
    exact hno e ((ha.edges e (ho ▸ hn)).2 he) ho
  | @ident n p t e hni he ho hk hi _ ih =>
    have hS : S e.out := ho ▸ hn
    have hpS := ha.closed e he hS
    exact .ident e (fun h => hni ((ha.inputs n hn).2 h)) ((ha.edges e hS).1 he) ho hk hi
      (ih (hpS _ (by rw [hi]; exact List.mem_singleton.2 rfl)))
  | @edge n ts e hni he ho hk hlen _ ih =>
    have hS : S e.out := ho ▸ hn
    exact .edge e (fun h => hni ((ha.inputs n hn).2 h)) ((ha.edges e hS).1 he) ho hk hlen
      (fun p hp => ih p hp (ha.closed e he hS p.1 (List.of_mem_zip hp).1))

theorem AgreeOn.symm {S : BNode → Prop} {b b' : Bag} (ha : AgreeOn S b b') : AgreeOn S b' b where
  inputs n hn := (ha.inputs n hn).symm
  edges e he := (ha.edges e he).symm
  closed e he hS := ha.closed e ((ha.edges e hS).2 he) hS

/-- **Frame**: on a region on which two bags agree, every node computes the same. -/
theorem BDen.frame {S : BNode → Prop} {b b' : Bag} (ha : AgreeOn S b b') {n : BNode} (hn : S n) (t : BTerm) :
    BDen b' n t ↔ BDen b n t :=
  ⟨BDen.frame_to ha hn, BDen.frame_to ha.symm hn⟩

theorem BDen.unary {b : Bag} {k : EdgeK} {p n : BNode} {t : BTerm} (hn : n ∉ b.inputs)
    (he : ({ edge := k, ins := [p], out := n } : BEdge) ∈ b.edges) (hk : k ≠ .identity) (hp : BDen b p t) :
    BDen b n (.node k [t]) :=
  .edge (ts := [t]) _ hn he rfl hk rfl (by simpa using hp)

mutual
  /-- `t` has no `missing` leaf: every leaf is an input of the bag.  The value theorems (`compiled_den`, `pipeline_value`, `tuple_value`) take
  it as a hypothesis their proofs do not use; `BTerm.noMissingB` (`CM.Proofs.BagTerm`) is the executable form. -/
  def BTerm.NoMissing : BTerm → Prop
    | .inp _ => True
    | .missing _ => False
    | .node _ args => BTerm.NoMissingL args
  def BTerm.NoMissingL : List BTerm → Prop
    | [] => True
    | t :: ts => t.NoMissing ∧ BTerm.NoMissingL ts
end

end CM
