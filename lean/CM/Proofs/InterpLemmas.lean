/-
  CM.Proofs.InterpLemmas — the pure interpreter of request programs: independence of the current hash for programs
  that never ask for it, and the order in which awaited requests are served.
-/
import CM.Model.Denote
import CM.Proofs.ProgLemmas
namespace CM

mutual
  theorem interpReq_noCur (c : Ctx) (a : Except Err (NHash × Val)) : ∀ r : Req, r.noCur = true →
      interpReq { c with cur := a } r = interpReq c r
    | .parentHash i, _ => by simp [interpReq]
    | .parentValue i, _ => by simp [interpReq]
    | .currentHash, h => by simp [Req.noCur] at h
    | .payload, h => by simp [Req.noCur] at h
    | .await rs, h => by
      simp only [Req.noCur] at h
      simp [interpReq, interpReqs_noCur c a rs h]
    | .call f pos kwn kwv, _ => by simp [interpReq]
  theorem interpReqs_noCur (c : Ctx) (a : Except Err (NHash × Val)) : ∀ rs : List Req, Req.noCurList rs = true →
      interpReqs { c with cur := a } rs = interpReqs c rs
    | [], _ => by simp [interpReqs]
    | r :: rs, h => by
      simp only [Req.noCurList, Bool.and_eq_true] at h
      simp [interpReqs, interpReq_noCur c a r h.1, interpReqs_noCur c a rs h.2]
end

theorem interp_noCur (c : Ctx) (a : Except Err (NHash × Val)) (p : Prog) (h : p.NoCur) :
    interp { c with cur := a } p = interp c p := by
  induction h with
  | ret x => rfl
  | raise e => rfl
  | req r k hr _ ih =>
    simp only [interp, interpReq_noCur c a r hr]
    cases interpReq c r with
    | error e => rfl
    | ok x => exact ih x

/-- the last request is served first; the answers come back in request order -/
theorem interpReqs_snoc (c : Ctx) (r : Req) : ∀ rs : List Req,
    interpReqs c (rs ++ [r]) =
      match interpReq c r with
      | .error e => .error e
      | .ok x => (interpReqs c rs).map (· ++ [x])
  | [] => by
    simp only [List.nil_append, interpReqs]
    cases interpReq c r <;> rfl
  | a :: rs => by
    simp only [List.cons_append, interpReqs, interpReqs_snoc c r rs]
    cases interpReq c r with
    | error e => rfl
    | ok x =>
      simp only
      cases interpReqs c rs with
      | error e => rfl
      | ok xs =>
        simp only [Except.map]
        cases interpReq c a <;> rfl

end CM
