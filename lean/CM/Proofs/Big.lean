/-
  CM.Proofs.Big — a fuel-indexed big-step evaluator with the *same* memo tables, eviction calls and
  stuck points as the stack machine of CM.Model.VM, written as ordinary recursion instead of an explicit
  command stack.  `Deriv.lean` turns its finished runs into derivations; `Sim.lean` shows the machine simulates them;
  the semantic theorems are proved about them.
-/
import CM.Model.VM
namespace CM

inductive Task where
  /-- `ComputeHash` on node `n` -/
  | hash (n : Nat)
  /-- `Evaluate` on node `n` -/
  | value (n : Nat)
  /-- the generator of node `n`, already resumed: run it to completion -/
  | prog (n : Nat) (p : Prog)
  /-- a request yielded by the generator of node `n` -/
  | req (n : Nat) (r : Req)
  /-- the requests of an `Await` still to be served (last request first) and the answers so far -/
  | reqs (n : Nat) (rsRev : List Req) (acc : List Item)

inductive BRes where
  | ok (x : Item) (m : Mem)
  | raised (e : Err) (m : Mem)
  | fuel

def big (g : Graph) : Nat → Task → Mem → BRes
  | 0, _, _ => .fuel
  | f + 1, .hash n, m =>
    match m.hashes.memo n with
    | some x => .ok x m
    | none =>
      match (g.node n).edge with
      | none => .raised .internal m
      | some e =>
        match big g f (.prog n (e.hashProg (g.parents n).length)) m with
        | .ok x m' =>
          match m'.hashes.memo n with
          | some _ => .raised .internal m'
          | none =>
            match m'.hashes.set n x with
            | none => .raised .internal m'
            | some h => .ok x { m' with hashes := h }
        | r => r
  | f + 1, .value n, m =>
    match m.cache.memo n with
    | some v => .ok (.val v) m
    | none =>
      match (g.node n).edge with
      | none => .raised .internal m
      | some e =>
        match big g f (.prog n (e.evalProg (g.parents n).length)) m with
        | .ok (.val v) m' =>
          match m'.cache.memo n with
          | some _ => .raised .internal m'
          | none =>
            match m'.cache.set n v with
            | none => .raised .internal m'
            | some c => .ok (.val v) { m' with cache := c }
        | .ok _ m' => .raised .internal m'
        | r => r
  | f + 1, .prog n p, m =>
    match runEffs p m.world with
    | (.ret x, w) =>
      match evictAll (g.parents n) m.hashes m.cache with
      | none => .raised .internal { m with world := w }
      | some (h, c) => .ok x { hashes := h, cache := c, world := w }
    | (.raise e, w) => .raised e { m with world := w }
    | (.req r k, w) =>
      match big g f (.req n r) { m with world := w } with
      | .ok x m' => big g f (.prog n (k x)) m'
      | r => r
    | (.eff _ _, w) => .raised .internal { m with world := w }
  | f + 1, .req n r, m =>
    match r with
    | .parentHash i =>
      match (g.parents n)[i]? with
      | none => .raised .internal m
      | some p =>
        match big g f (.hash p) m with
        | .ok (.hout h _) m' => .ok (.hash h) m'
        | .ok _ m' => .raised .internal m'
        | r => r
    | .parentValue i =>
      match (g.parents n)[i]? with
      | none => .raised .internal m
      | some p => big g f (.value p) m
    | .currentHash =>
      match big g f (.hash n) m with
      | .ok (.hout h _) m' => .ok (.hash h) m'
      | .ok _ m' => .raised .internal m'
      | r => r
    | .payload =>
      match big g f (.hash n) m with
      | .ok (.hout _ p) m' => .ok (.val p) m'
      | .ok _ m' => .raised .internal m'
      | r => r
    | .await rs => big g f (.reqs n rs.reverse []) m
    | .call fn pos kwn kwv =>
      match m.world.call n fn pos kwn kwv with
      | (.ok v, w) => .ok (.val v) { m with world := w }
      | (.error e, w) => .raised e { m with world := w }
  | f + 1, .reqs n rsRev acc, m =>
    match rsRev with
    | [] => .ok (.tup acc) m
    | r :: rest =>
      match big g f (.req n r) m with
      | .ok x m' => big g f (.reqs n rest (x :: acc)) m'
      | r => r

end CM
