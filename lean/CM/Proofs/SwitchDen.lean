/-
  CM.Proofs.SwitchDen — what a switch node (Merge) denotes: its owner's branch.
-/
import CM.Proofs.EdgeSem
import CM.Proofs.TermDen
namespace CM

/-- **A switch node (Merge) is its owner's branch**: if the key evaluates to `v` and the routing table sends `v` to branch `idx`,
the node hash is the node hash of that branch and the value its value; no other branch is asked for anything. -/
theorem switch_den (d : DenCfg) (table : List (Val × Nat)) (key : BTerm) (branches : List BTerm) (v : Val) (idx : Nat) (tb : BTerm)
    (hk : (key.den d).v = .ok v) (hl : tableLookup table v = some idx) (hb : branches[idx]? = some tb) :
    ((BTerm.node (.switch table) (key :: branches)).den d).h.map (·.1) = (tb.den d).h.map (·.1) ∧
    (∀ hh, (tb.den d).h = .ok hh → ((BTerm.node (.switch table) (key :: branches)).den d).v = (tb.den d).v) := by
  have hdsi : (BTerm.denList d branches)[idx]? = some (tb.den d) := by rw [denList_getElem?, hb]; rfl
  rw [BTerm.den_node, BTerm.denList]
  simp only [EdgeK.den, hashProg_switch]
  simp only [argCtx, List.getElem?_cons_zero, List.getElem?_cons_succ, hk, hl, hdsi, Except.bind]
  constructor
  · cases (tb.den d).h <;> rfl
  · intro hh hok
    rw [evalProg_switch (h := hh.1) (idx := idx) (by simp only [hok]; rfl)]
    simp only [List.getElem?_cons_succ, hdsi]
    cases (tb.den d).v <;> rfl

/-- an id the routing table does not know is rejected (`ValueError`), whatever the branches are -/
theorem switch_unknown (d : DenCfg) (table : List (Val × Nat)) (key : BTerm) (branches : List BTerm) (v : Val)
    (hk : (key.den d).v = .ok v) (hl : tableLookup table v = none) :
    ((BTerm.node (.switch table) (key :: branches)).den d).h = .error .valueError ∧
    ((BTerm.node (.switch table) (key :: branches)).den d).v = .error .valueError := by
  rw [BTerm.den_node, BTerm.denList]
  have hh : ((EdgeK.switch table).den (d.call 0) (key.den d :: BTerm.denList d branches)).h = .error .valueError := by
    simp only [EdgeK.den, hashProg_switch, argCtx, List.getElem?_cons_zero, hk, hl, Except.bind]
  exact ⟨hh, by rw [EdgeK.den, evalProg_cur_error _ rfl hh]; rfl⟩

end CM
