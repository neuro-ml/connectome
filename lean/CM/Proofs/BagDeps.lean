/-
  CM.Proofs.BagDeps — `find_dependencies` / `_validate_optionals` of `GraphCompiler` at the node level:
  the dependency table computes exactly the leaves below every node (reachability), and the validation drops / rejects
  exactly by those leaves that are not inputs of the bag; and the tie to `BDen`: those leaves are the `missing` leaves of the node's
  term (`BTerm.missingNames`, `BDen.missing_iff`).
-/
import CM.Proofs.Basics
import CM.Proofs.BagPeel
namespace CM

/-- `d` is a leaf of the edge list (no incoming edge) that is reachable from `n` along incoming edges. -/
inductive LeafBelow (es : List BEdge) : BNode → BNode → Prop
  | here (e : BEdge) (n p : BNode) : e ∈ es → e.out = n → p ∈ e.ins → (∀ e' ∈ es, e'.out ≠ p) → LeafBelow es n p
  | step (e : BEdge) (n p d : BNode) : e ∈ es → e.out = n → p ∈ e.ins → LeafBelow es p d → LeafBelow es n d

theorem LeafBelow.has_edge {es : List BEdge} {n d : BNode} (h : LeafBelow es n d) : ∃ e ∈ es, e.out = n := by
  cases h with
  | here e _ _ he ho _ _ => exact ⟨e, he, ho⟩
  | step e _ _ _ he ho _ _ => exact ⟨e, he, ho⟩

theorem LeafBelow.is_leaf {es : List BEdge} {n d : BNode} (h : LeafBelow es n d) : ∀ e' ∈ es, e'.out ≠ d := by
  induction h with
  | here _ _ _ _ _ _ hl => exact hl
  | step _ _ _ _ _ _ _ _ ih => exact ih

/-- `d` is `n` itself, a leaf, or a leaf below `n`: what `n` hands up to the nodes it feeds -/
def LeafAt (es : List BEdge) (n d : BNode) : Prop := (n = d ∧ ∀ e ∈ es, e.out ≠ n) ∨ LeafBelow es n d

theorem leafAt_leaf {es : List BEdge} {n d : BNode} (hl : ∀ e ∈ es, e.out ≠ n) : LeafAt es n d ↔ n = d := by
  refine ⟨fun h => h.elim (·.1) fun hb => ?_, fun h => .inl ⟨h, hl⟩⟩
  obtain ⟨e, he, ho⟩ := hb.has_edge
  exact absurd ho (hl e he)

theorem leafAt_inner {es : List BEdge} {n d : BNode} (hn : ∃ e ∈ es, e.out = n) : LeafAt es n d ↔ LeafBelow es n d := by
  refine ⟨fun h => h.resolve_left fun h => ?_, .inr⟩
  obtain ⟨e, he, ho⟩ := hn
  exact h.2 e he ho

theorem LeafBelow.out_iff {es : List BEdge} (hs : SingleIncoming es) {e : BEdge} (he : e ∈ es) {d : BNode} :
    LeafBelow es e.out d ↔ ∃ p ∈ e.ins, LeafAt es p d := by
  constructor
  · intro h
    cases h with
    | here e' _ _ he' ho hp hl =>
      obtain rfl := hs e' he' e he ho
      exact ⟨d, hp, .inl ⟨rfl, hl⟩⟩
    | step e' _ p _ he' ho hp hb =>
      obtain rfl := hs e' he' e he ho
      exact ⟨p, hp, .inr hb⟩
  · rintro ⟨p, hp, ⟨rfl, hl⟩ | hb⟩
    · exact .here e _ _ he rfl hp hl
    · exact .step e _ p _ he rfl hp hb

/-! ### membership in the sets `find_dependencies` builds -/

theorem mem_insertNode (n : BNode) (ns : List BNode) (d : BNode) : d ∈ insertNode n ns ↔ d = n ∨ d ∈ ns := by
  unfold insertNode
  split
  · rename_i h
    have hn : n ∈ ns := by simpa using h
    exact ⟨.inr, fun h => h.elim (· ▸ hn) id⟩
  · simp only [List.mem_append, List.mem_singleton]
    exact or_comm

theorem mem_unionNodes : ∀ (b a : List BNode) (d : BNode), d ∈ unionNodes a b ↔ d ∈ a ∨ d ∈ b
  | [], a, d => by simp [unionNodes]
  | x :: b, a, d => by
    have ih := mem_unionNodes b (insertNode x a) d
    simp only [unionNodes, List.foldl_cons] at ih ⊢
    rw [ih, mem_insertNode, List.mem_cons]
    simp only [or_assoc, or_left_comm]

theorem find?_key (tbl : List (BNode × List BNode)) (n : BNode) :
    (∃ ds, tbl.find? (·.1 == n) = some (n, ds) ∧ (n, ds) ∈ tbl) ∨ (tbl.find? (·.1 == n) = none ∧ n ∉ tbl.map (·.1)) := by
  cases hf : tbl.find? (·.1 == n) with
  | some q =>
    obtain ⟨k, ds⟩ := q
    obtain rfl : k = n := by simpa using List.find?_some hf
    exact .inl ⟨ds, rfl, List.mem_of_find?_eq_some hf⟩
  | none =>
    refine .inr ⟨rfl, fun hm => ?_⟩
    obtain ⟨q, hq, rfl⟩ := List.mem_map.1 hm
    simpa using List.find?_eq_none.1 hf q hq

/-- what one parent contributes to the set of its child -/
def contrib (tbl : List (BNode × List BNode)) (p : BNode) : List BNode :=
  match tbl.find? (·.1 == p) with
  | some (_, ds) => ds
  | none => [p]

def localStep (tbl : List (BNode × List BNode)) (acc : List BNode) (p : BNode) : List BNode :=
  match tbl.find? (·.1 == p) with
  | some (_, ds) => unionNodes acc ds
  | none => insertNode p acc

theorem mem_localStep (tbl : List (BNode × List BNode)) (acc : List BNode) (p d : BNode) :
    d ∈ localStep tbl acc p ↔ d ∈ acc ∨ d ∈ contrib tbl p := by
  unfold localStep contrib
  split
  · exact mem_unionNodes _ _ _
  · rw [mem_insertNode]
    simp only [List.mem_singleton]
    exact or_comm

theorem mem_localFold (tbl : List (BNode × List BNode)) : ∀ (ins : List BNode) (acc : List BNode) (d : BNode),
    d ∈ ins.foldl (localStep tbl) acc ↔ d ∈ acc ∨ ∃ p ∈ ins, d ∈ contrib tbl p
  | [], acc, d => by simp
  | p :: ins, acc, d => by
    rw [List.foldl_cons, mem_localFold tbl ins, mem_localStep]
    simp only [List.mem_cons, exists_eq_or_imp]
    exact or_assoc

/-- one step of the table construction, as the model writes it -/
def tblStep (tbl : List (BNode × List BNode)) (e : BEdge) : List (BNode × List BNode) :=
  tbl ++ [(e.out, e.ins.foldl (localStep tbl) [])]

theorem depsTable_eq (es : List BEdge) : depsTable es = (topoEdges es).1.foldl tblStep [] := rfl

/-- every entry of the table belongs to an edge output and lists exactly the leaves below it -/
def TblOK (es : List BEdge) (tbl : List (BNode × List BNode)) : Prop :=
  ∀ q ∈ tbl, (∃ e ∈ es, e.out = q.1) ∧ ∀ d, d ∈ q.2 ↔ LeafBelow es q.1 d

theorem contrib_spec {es : List BEdge} {tbl : List (BNode × List BNode)} (hok : TblOK es tbl) {p : BNode}
    (hp : (∀ e' ∈ es, e'.out ≠ p) ∨ p ∈ tbl.map (·.1)) (d : BNode) :
    d ∈ contrib tbl p ↔ LeafAt es p d := by
  rcases find?_key tbl p with ⟨ds, hf, hmem⟩ | ⟨hf, hnot⟩ <;> simp only [contrib, hf]
  · -- `p` has an entry, so an incoming edge
    rw [(hok _ hmem).2 d, leafAt_inner (hok _ hmem).1]
  · -- no entry: `p` is a leaf
    rw [List.mem_singleton, leafAt_leaf (hp.resolve_right hnot)]
    exact eq_comm

theorem tblFold_keys : ∀ (L : List BEdge) (tbl : List (BNode × List BNode)),
    (L.foldl tblStep tbl).map (·.1) = tbl.map (·.1) ++ L.map (·.out)
  | [], tbl => by simp
  | e :: L, tbl => by simp [tblFold_keys L, tblStep]

/-- along an order that lists parents first, every step of the construction keeps the table right: the set of a new node is
put together from the sets of its inputs, which are leaves or have their entry already -/
theorem tblFold_ok (es : List BEdge) (hs : SingleIncoming es) : ∀ (L : List BEdge) (tbl : List (BNode × List BNode)),
    TblOK es tbl → (∀ e ∈ L, e ∈ es) → TopoFrom es (tbl.map (·.1)) L → TblOK es (L.foldl tblStep tbl)
  | [], _, hok, _, _ => hok
  | e :: L, tbl, hok, hL, ht => by
    have he : e ∈ es := hL e (List.mem_cons_self ..)
    refine tblFold_ok es hs L (tblStep tbl e) ?_ (fun x hx => hL x (List.mem_cons_of_mem _ hx))
      (topoFrom_mono es L (by rw [tblStep, List.map_append]; exact (List.perm_append_singleton ..).symm.subset) ht.2)
    intro q hq
    rcases List.mem_append.1 hq with hq | hq
    · exact hok q hq
    · obtain rfl := List.mem_singleton.1 hq
      refine ⟨⟨e, he, rfl⟩, fun d => ?_⟩
      rw [mem_localFold, LeafBelow.out_iff hs he]
      simp only [List.not_mem_nil, false_or]
      exact exists_congr fun p => and_congr_right fun hp => contrib_spec hok (ht.1 p hp) d

theorem depsTable_ok (es : List BEdge) (hs : SingleIncoming es) :
    TblOK es (depsTable es) ∧ (depsTable es).map (·.1) = (topoEdges es).1.map (·.out) := by
  rw [depsTable_eq]
  exact ⟨tblFold_ok es hs _ [] nofun (peel_sub _ _) (topoEdges_topo es),
    tblFold_keys _ []⟩

theorem mem_depsTable (es : List BEdge) (hs : SingleIncoming es) (hac : acyclicB es = true) (n d : BNode) :
    (∃ ds, (n, ds) ∈ depsTable es ∧ d ∈ ds) ↔ LeafBelow es n d := by
  obtain ⟨hok, hkeys⟩ := depsTable_ok es hs
  constructor
  · rintro ⟨ds, hq, hd⟩
    exact ((hok _ hq).2 d).1 hd
  · intro hb
    obtain ⟨e, he, ho⟩ := hb.has_edge
    obtain ⟨⟨k, ds⟩, hq, rfl⟩ := List.mem_map.1 (hkeys ▸ List.mem_map.2 ⟨e, topoEdges_all hac e he, ho⟩)
    exact ⟨ds, hq, ((hok _ hq).2 d).2 hb⟩

/-- **`find_dependencies` computes reachability**: on an acyclic edge list with single incoming edges the set recorded
for a node is exactly the set of leaves below it (empty for a leaf). -/
theorem depsOf_spec (es : List BEdge) (hs : SingleIncoming es) (hac : acyclicB es = true) (n d : BNode) :
    d ∈ depsOf (depsTable es) n ↔ LeafBelow es n d := by
  rcases find?_key (depsTable es) n with ⟨ds, hf, hmem⟩ | ⟨hf, hnot⟩ <;> simp only [depsOf, hf]
  · exact ((depsTable_ok es hs).1 _ hmem).2 d
  · refine ⟨fun h => (nomatch h), fun hb => ?_⟩
    obtain ⟨ds, hq, _⟩ := (mem_depsTable es hs hac n d).2 hb
    exact absurd (List.mem_map.2 ⟨_, hq, rfl⟩) hnot

/-! ### `_validate_optionals` -/

/-- an unreachable input of `o`: a leaf below `o` that is no input of the bag -/
def Unreach (b : Bag) (o d : BNode) : Prop := LeafBelow b.edges o d ∧ d ∉ b.inputs

theorem mem_missingOf (b : Bag) (hs : SingleIncoming b.edges) (hac : acyclicB b.edges = true) (o d : BNode) :
    d ∈ b.missingOf (depsTable b.edges) o ↔ Unreach b o d := by
  simp only [Bag.missingOf, List.mem_filter, depsOf_spec b.edges hs hac, Unreach, Bool.not_eq_eq_eq_not, Bool.not_true,
    List.contains_eq_mem, decide_eq_false_iff_not]

theorem missingOf_nil (b : Bag) (hs : SingleIncoming b.edges) (hac : acyclicB b.edges = true) (o : BNode) :
    (b.missingOf (depsTable b.edges) o).isEmpty = true ↔ ∀ d, ¬ Unreach b o d := by
  rw [List.isEmpty_iff, List.eq_nil_iff_forall_not_mem]
  exact forall_congr' fun d => not_congr (mem_missingOf b hs hac o d)

/-- the verdict of `_validate_optionals` on one output -/
def Quiet (b : Bag) (o : BNode) : Prop := o ∈ b.optional ∧ ∀ d, Unreach b o d → d ∈ b.optional

/-- `_validate_optionals` raises for the output `o`: it lacks inputs and may not be left out -/
def Bag.loud (b : Bag) (tbl : List (BNode × List BNode)) (o : BNode) : Bool :=
  !(b.missingOf tbl o).isEmpty && (!b.optional.contains o || (b.missingOf tbl o).any fun m => !b.optional.contains m)

theorem validateOutputs_eq (b : Bag) (tbl : List (BNode × List BNode)) : ∀ os : List BNode, validateOutputs b tbl os =
    if os.any (b.loud tbl) then .error .dependency else .ok (os.filter fun o => (b.missingOf tbl o).isEmpty)
  | [] => rfl
  | o :: os => by
    simp only [validateOutputs, validateOutputs_eq b tbl os, List.any_cons, List.filter_cons, Bag.loud]
    -- the three tests the code makes for `o`: does it lack nothing? is it optional? is every leaf it lacks optional?
    cases (b.missingOf tbl o).isEmpty
    · cases b.optional.contains o
      · rfl
      · cases (b.missingOf tbl o).any fun m => !b.optional.contains m <;> rfl
    · simp only [Bool.not_true, Bool.false_and, Bool.false_or, if_true]
      split <;> rfl

theorem loud_iff (b : Bag) (hs : SingleIncoming b.edges) (hac : acyclicB b.edges = true) (o : BNode) :
    b.loud (depsTable b.edges) o = true ↔ (∃ d, Unreach b o d) ∧ ¬ Quiet b o := by
  have hne : (!(b.missingOf (depsTable b.edges) o).isEmpty) = true ↔ ∃ d, Unreach b o d := by
    rw [Bool.not_eq_true', ← Bool.not_eq_true, missingOf_nil b hs hac, Classical.not_forall]
    exact exists_congr fun d => Classical.not_not
  -- the second factor of `loud` is `¬ Quiet` with the negation pushed through `∧` and `∀`
  simp only [Bag.loud, Bool.and_eq_true, hne, Bool.or_eq_true, Bool.not_eq_true', List.any_eq_true, mem_missingOf b hs hac,
    List.contains_eq_mem, decide_eq_false_iff_not, Quiet, Classical.not_and_iff_not_or_not, Classical.not_forall,
    exists_prop]

theorem validateOutputs_ok (b : Bag) (hs : SingleIncoming b.edges) (hac : acyclicB b.edges = true) {os avail : List BNode}
    (h : validateOutputs b (depsTable b.edges) os = .ok avail) :
    (∀ o, o ∈ avail ↔ o ∈ os ∧ ∀ d, ¬ Unreach b o d) ∧ ∀ o ∈ os, o ∉ avail → Quiet b o ∧ ∃ d, Unreach b o d := by
  rw [validateOutputs_eq] at h
  obtain ⟨hno, h⟩ := of_guard_ok h
  cases h
  have hmem : ∀ o, o ∈ os.filter (fun o => (b.missingOf (depsTable b.edges) o).isEmpty) ↔ o ∈ os ∧ ∀ d, ¬ Unreach b o d :=
    fun o => by rw [List.mem_filter, missingOf_nil b hs hac]
  refine ⟨hmem, fun o ho hna => ?_⟩
  have hex : ∃ d, Unreach b o d := Classical.byContradiction fun hne => hna ((hmem o).2 ⟨ho, fun d hd => hne ⟨d, hd⟩⟩)
  exact ⟨Classical.byContradiction fun hq => hno (List.any_eq_true.2 ⟨o, ho, (loud_iff b hs hac o).2 ⟨hex, hq⟩⟩), hex⟩

theorem validateOutputs_dependency (b : Bag) (hs : SingleIncoming b.edges) (hac : acyclicB b.edges = true) :
    ∀ (os : List BNode), validateOutputs b (depsTable b.edges) os = .error .dependency ↔
      ∃ o ∈ os, (∃ d, Unreach b o d) ∧ ¬ Quiet b o := by
  intro os
  simp only [validateOutputs_eq, ← loud_iff b hs hac, ← List.any_eq_true]
  split <;> simp [*]

theorem validate_ok {b : Bag} {avail : List BNode} (h : b.validate = .ok avail) :
    hasDupStr (names b.inputs) = false ∧ hasDupStr (names b.outputs) = false ∧ multipleIncoming b.edges = false ∧
    validateOutputs b (depsTable b.edges) b.outputs = .ok avail := by
  unfold Bag.validate at h
  obtain ⟨h1, h⟩ := of_guard_ok h
  obtain ⟨h2, h⟩ := of_guard_ok h
  obtain ⟨_, h⟩ := of_guard_ok h
  simp only [Bool.or_eq_true, not_or, Bool.not_eq_true] at h1 h2
  exact ⟨h1.1, h1.2, h2, h⟩

/-! ### the tie to the semantics: the unreachable inputs are the `missing` leaves of the term -/

def BTerm.missingNames : BTerm → List String
  | .inp _ => []
  | .missing x => [x]
  | .node _ args => missingNamesL args
where
  missingNamesL : List BTerm → List String
    | [] => []
    | t :: ts => t.missingNames ++ missingNamesL ts

theorem mem_missingNamesL (x : String) : ∀ (ts : List BTerm),
    x ∈ BTerm.missingNames.missingNamesL ts ↔ ∃ t ∈ ts, x ∈ t.missingNames
  | [] => by simp [BTerm.missingNames.missingNamesL]
  | t :: ts => by
    simp only [BTerm.missingNames.missingNamesL, List.mem_append, mem_missingNamesL x ts, List.mem_cons,
      exists_eq_or_imp]

/-- a missing leaf at or below `n` -/
def MissAt (b : Bag) (n d : BNode) : Prop := d ∉ b.inputs ∧ LeafAt b.edges n d

theorem missAt_leaf {b : Bag} {n : BNode} (hno : ∀ e ∈ b.edges, e.out ≠ n) (d : BNode) :
    MissAt b n d ↔ d = n ∧ n ∉ b.inputs := by
  rw [MissAt, leafAt_leaf hno]
  exact ⟨fun ⟨hni, h⟩ => ⟨h.symm, h ▸ hni⟩, fun ⟨h, hni⟩ => ⟨h ▸ hni, h.symm⟩⟩

theorem missAt_edge {b : Bag} (hs : SingleIncoming b.edges) {e : BEdge} (he : e ∈ b.edges) (d : BNode) :
    MissAt b e.out d ↔ ∃ p ∈ e.ins, MissAt b p d := by
  simp only [MissAt, leafAt_inner ⟨e, he, rfl⟩, LeafBelow.out_iff hs he]
  exact ⟨fun ⟨hni, p, hp, h⟩ => ⟨p, hp, hni, h⟩, fun ⟨p, hp, hni, h⟩ => ⟨hni, p, hp, h⟩⟩

/-- **The `missing` leaves of the term of a node are exactly the names of the unreachable leaves at or below it.** -/
theorem BDen.missing_iff {b : Bag} (hs : SingleIncoming b.edges) (hleaf : ∀ n ∈ b.inputs, ∀ e ∈ b.edges, e.out ≠ n)
    {n : BNode} {t : BTerm} (h : BDen b n t) (x : String) :
    x ∈ t.missingNames ↔ ∃ d, d.name = x ∧ MissAt b n d := by
  induction h with
  | @input n hi =>
    simp only [BTerm.missingNames, List.not_mem_nil, missAt_leaf (hleaf n hi), false_iff]
    exact fun ⟨_, _, _, hni⟩ => hni hi
  | @missing n hni hno =>
    simp only [BTerm.missingNames, List.mem_singleton, missAt_leaf hno]
    exact ⟨fun h => ⟨n, h.symm, rfl, hni⟩, fun ⟨_, hx, hd, _⟩ => hd ▸ hx.symm⟩
  | @ident n p t e _ he ho _ hi _ ih =>
    subst ho
    rw [ih]
    refine exists_congr fun d => and_congr_right fun _ => ?_
    rw [missAt_edge hs he, hi]
    simp
  | @edge n ts e _ he ho _ hlen _ ih =>
    subst ho
    simp only [BTerm.missingNames, mem_missingNamesL, missAt_edge hs he]
    constructor
    · rintro ⟨t, ht, hx⟩
      obtain ⟨p, hz⟩ := exists_zip_right hlen ht
      obtain ⟨d, hd, hm⟩ := (ih _ hz).1 hx
      exact ⟨d, hd, p, (List.of_mem_zip hz).1, hm⟩
    · rintro ⟨d, hd, p, hp, hm⟩
      obtain ⟨t, hz⟩ := exists_zip_left hlen hp
      exact ⟨t, (List.of_mem_zip hz).2, (ih _ hz).2 ⟨d, hd, hm⟩⟩

theorem unreach_iff_missAt {b : Bag} {o : BNode} (ho : ∃ e ∈ b.edges, e.out = o) (d : BNode) :
    Unreach b o d ↔ MissAt b o d := by
  rw [MissAt, leafAt_inner ho]
  exact and_comm

end CM
