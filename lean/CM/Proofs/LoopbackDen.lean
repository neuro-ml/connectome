/-
  CM.Proofs.LoopbackDen — what the nodes of a decorated graph (`EdgesBag.loopback`) compute: the part that is not downstream of an edge
  `Context.reverse` added computes what it computed in `pipeline >> f` (`den_extension`); the new edges are identity edges, so a backward
  input computes what the node stitched to it (`Feeds`) computes, and a clone what the node handed on (`Passes`) computes.
-/
import CM.Proofs.BagReverse
import CM.Proofs.BagSem
import CM.Proofs.MkBag
namespace CM

/-- downstream of one of the nodes in `srcs`, along the edges `es`.  The value theorems take `¬ Down r.edges (es.map (·.out)) o` (the node `o`
does not depend on an edge the backward pass added) as a premise; no lemma derives it for a class of graphs. -/
inductive Down (es : List BEdge) (srcs : List BNode) : BNode → Prop
  | src {n} : n ∈ srcs → Down es srcs n
  | step {e i} : e ∈ es → i ∈ e.ins → Down es srcs i → Down es srcs e.out

/-- **Extension frame.**  Adding edges to a bag (same inputs) changes nothing for the nodes that are not downstream of the outputs of
the new edges. -/
theorem den_extension {s r : Bag} {es : List BEdge} (hin : r.inputs = s.inputs) (hed : r.edges = s.edges ++ es)
    {n : BNode} (hn : ¬ Down r.edges (es.map (·.out)) n) (t : BTerm) : BDen r n t ↔ BDen s n t := by
  refine BDen.frame (S := fun m => ¬ Down r.edges (es.map (·.out)) m) ⟨fun m _ => by rw [hin], fun e he => ?_, ?_⟩ hn t
  · rw [hed, List.mem_append]
    exact ⟨fun h => h.resolve_right fun h => he (.src (List.mem_map.2 ⟨e, h, rfl⟩)), .inl⟩
  · exact fun e he hout i hi hdown => hout (.step he hi hdown)

/-- `r` is the graph `EdgesBag.loopback` builds over the state `s` (`pipeline >> f`): the same inputs, in addition the edges `es` that
reversing the context of `s` on its outputs returns, and the outputs it returns instead of those of `s`.  `Decorated.of_loopback` gives it for
every returning `loopbackWith`. -/
structure Decorated (s r : Bag) (es : List BEdge) : Prop where
  inputs : r.inputs = s.inputs
  edges : r.edges = s.edges ++ es
  single : SingleIncoming r.edges
  rev : ∃ opt nx, s.ctx.reverse s.outputs s.next = .ok (r.outputs, es, opt, nx)

theorem Decorated.of_loopback {b fb r : Bag} (h : b.loopbackWith fb = .ok r) :
    ∃ state es, connectBags b fb = .ok state ∧ Decorated state r es := by
  simp only [Bag.loopbackWith, bind_eq_ok, Prod.exists] at h
  obtain ⟨state, hst, outs, es, opt, nx, hrev, h⟩ := h
  obtain ⟨ho, he⟩ := mkBag_of_no_names h rfl rfl
  obtain ⟨rfl, hc⟩ := mkBag_ok h
  exact ⟨state, es, hst, rfl, he, hc.single, opt, nx, ho ▸ hrev⟩

namespace Decorated
variable {s r : Bag} {es : List BEdge} (hd : Decorated s r es)
include hd

theorem forward {n : BNode} (hn : ¬ Down r.edges (es.map (·.out)) n) (t : BTerm) : BDen r n t ↔ BDen s n t :=
  den_extension hd.inputs hd.edges hn t

theorem feeds {n o : BNode} (hf : Feeds s.ctx s.outputs s.next n o) (hn : n ∉ r.inputs) (t : BTerm) :
    BDen r n t ↔ BDen r o t := by
  obtain ⟨_, _, hrev⟩ := hd.rev
  exact den_identity_edge hd.single (hd.edges ▸ List.mem_append_right _ (reverse_feeds _ _ _ _ _ _ _ hrev n o hf)) hn t

theorem passes {n c : BNode} (hp : Passes s.ctx s.outputs s.next n c) (hc : c ∉ r.inputs) (t : BTerm) :
    BDen r c t ↔ BDen r n t := by
  obtain ⟨_, _, hrev⟩ := hd.rev
  exact den_identity_edge hd.single (hd.edges ▸ List.mem_append_right _ (reverse_passes _ _ _ _ _ _ _ hrev n c hp)) hc t

theorem first_outputs {bi bo : List BNode} {inh : NameSet} {c : BCtx} (hctx : s.ctx = .chain (.bag bi bo inh) c) : ∀ n ∈ bo, n ∈ r.outputs := by
  obtain ⟨_, _, hrev⟩ := hctx ▸ hd.rev
  exact reverse_chain_bag_outputs bi bo inh c _ _ _ _ _ _ hrev

theorem through {n c o : BNode} (hf : Feeds s.ctx s.outputs s.next n c) (hp : Passes s.ctx s.outputs s.next o c) (hn : n ∉ r.inputs)
    (hc : c ∉ r.inputs) (ho : ¬ Down r.edges (es.map (·.out)) o) (t : BTerm) : BDen r n t ↔ BDen s o t :=
  (hd.feeds hf hn t).trans ((hd.passes hp hc t).trans (hd.forward ho t))

end Decorated

end CM
