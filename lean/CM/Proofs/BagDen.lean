/-
  CM.Proofs.BagDen — what the specification of the VM (CM.Model.Denote) assigns to a term of the bag semantics.
-/
import CM.Model.Denote
import CM.Proofs.BagSem
namespace CM

mutual
  /-- the denotation of a term: what the VM's specification (`CM.Model.Denote`) assigns to a node that computes it -/
  def BTerm.den (d : DenCfg) : BTerm → Den
    | .inp x =>
      match d.env x with
      | some v => { h := .ok (.leaf v, .none), v := .ok v }
      | none => { h := .error .internal, v := .error .internal }
    | .missing _ => { h := .error .internal, v := .error .internal }
    | .node e args =>
      let ds := BTerm.denList d args
      let c0 : Ctx :=
        { ph := fun j => match ds[j]? with
            | some x => x.h.map (·.1)
            | none => .error .internal
          pv := fun j => match ds[j]? with
            | some x => x.v
            | none => .error .internal
          cur := .error .internal
          call := d.call 0 }
      let h : Except Err (NHash × Val) := (interp c0 (e.hashProg args.length)).bind Item.asHout
      { h := h, v := (interp { c0 with cur := h } (e.evalProg args.length)).bind Item.asVal }
  def BTerm.denList (d : DenCfg) : List BTerm → List Den
    | [] => []
    | t :: ts => t.den d :: BTerm.denList d ts
end

/-- equal as far as anything downstream can see: the hash (without the payload) and the value -/
def DenEq (a b : Den) : Prop := a.h.map (·.1) = b.h.map (·.1) ∧ a.v = b.v

end CM
