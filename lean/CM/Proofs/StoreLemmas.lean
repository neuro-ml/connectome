/-
  CM.Proofs.StoreLemmas — the in-memory cache table `MemStore` (`MemoryCache`: dict or `pylru.lrucache`): its key equality, what
  `get` and `set` leave in the table.
-/
import CM.Model.VM
import CM.Proofs.BeqSound
namespace CM

theorem MemStore.keyEq_refl (s : MemStore) (k : NHash) : s.keyEq k k = true := by
  unfold MemStore.keyEq
  split
  · exact NHash.beq_refl k
  · exact hashKeyEq_refl k

theorem MemStore.keyEq_congr (s s' : MemStore) (h : s'.exact = s.exact) (a b : NHash) : s'.keyEq a b = s.keyEq a b := by
  simp [MemStore.keyEq, h]

theorem MemStore.keyEq_of_find {s : MemStore} {key : NHash} {p : NHash × Val} (h : s.find? key = some p) :
    p ∈ s.table ∧ s.keyEq p.1 key = true := by
  unfold MemStore.find? at h
  exact ⟨List.mem_of_find?_eq_some h, by simpa using List.find?_some h⟩

theorem MemStore.get_hit (s : MemStore) (key : NHash) (v : Val) (h : (s.get key).1 = some v) :
    ∃ p ∈ s.table, p.2 = v ∧ s.keyEq p.1 key = true := by
  unfold MemStore.get at h
  split at h
  · cases h
  · next k v' hf =>
    obtain ⟨hm, hk⟩ := MemStore.keyEq_of_find hf
    refine ⟨_, hm, ?_, hk⟩
    split at h <;> cases h <;> rfl

theorem MemStore.get_sub (s : MemStore) (key : NHash) : ∀ p ∈ (s.get key).2.table, p ∈ s.table := by
  unfold MemStore.get
  split
  · exact fun _ hp => hp
  · next k v hf =>
    split
    · exact fun _ hp => hp
    · intro p hp
      rcases List.mem_cons.mp hp with rfl | hp
      · exact (MemStore.keyEq_of_find hf).1
      · exact (List.mem_filter.mp hp).1

theorem MemStore.get_exact (s : MemStore) (key : NHash) : (s.get key).2.exact = s.exact := by
  unfold MemStore.get
  split
  · rfl
  · split <;> rfl

theorem MemStore.set_sub (s : MemStore) (key : NHash) (v : Val) :
    ∀ p ∈ (s.set key v).table, p ∈ s.table ∨ (p.2 = v ∧ s.keyEq p.1 key = true) := by
  unfold MemStore.set
  -- the entry written sits under the key found for `key`, or under `key` itself
  have hfound : ∀ k v0, s.find? key = some (k, v0) → (k, v).2 = v ∧ s.keyEq k key = true :=
    fun k v0 hf => ⟨rfl, (MemStore.keyEq_of_find hf).2⟩
  have hnew : (key, v).2 = v ∧ s.keyEq key key = true := ⟨rfl, s.keyEq_refl key⟩
  split <;> split <;> intro p hp
  -- a dict holding the key: the entry is overwritten in place
  · next k v0 hf =>
    obtain ⟨q, hq, rfl⟩ := List.mem_map.mp hp
    dsimp only
    split
    · exact .inr (hfound k v0 hf)
    · exact .inl hq
  -- a dict without it: appended
  · rcases List.mem_append.mp hp with hp | hp
    · exact .inl hp
    · cases List.mem_singleton.mp hp; exact .inr hnew
  -- an LRU table holding the key: the entry moves to the front
  · next k v0 hf =>
    rcases List.mem_cons.mp hp with rfl | hp
    · exact .inr (hfound k v0 hf)
    · exact .inl (List.mem_filter.mp hp).1
  -- an LRU table without it: put in front, the table cut to its size
  · rcases List.mem_cons.mp (List.mem_of_mem_take hp) with rfl | hp
    · exact .inr hnew
    · exact .inl hp

theorem MemStore.set_exact (s : MemStore) (key : NHash) (v : Val) : (s.set key v).exact = s.exact := by
  unfold MemStore.set
  split <;> split <;> rfl

end CM
