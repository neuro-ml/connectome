/-
  CM.Proofs.DetectOpt — `detect_optionals` (containers/reversible.py): which nodes of a layer's container are optional.
-/
import CM.Proofs.OptMapM
import CM.Proofs.BagDeps
namespace CM

/-- `u` is a node `find_dependencies(outputs)` visits that depends on the leaf `i` -/
def UserOf (es : List BEdge) (outputs : List BNode) (u i : BNode) : Prop :=
  u ∈ reachFrom es (es.length + 1) outputs ∧ LeafBelow es u i

/-- **What `detect_optionals` marks.**  For a container with single incoming edges and no cycle: a node is optional exactly if it is
an output carrying an `@optional` name; or an input that some visited node depends on, all of whose (visited) dependants are such
optional outputs; or a backward input or output.  In particular a private parameter that reads an input is a dependant that is
never an optional output: an input used through a parameter is required. -/
theorem detectOptionals_spec (optNames : List String) (inputs outputs backIn backOut : List BNode) (es : List BEdge)
    (opt : List BNode) (hs : SingleIncoming es) (hac : acyclicB es = true)
    (h : detectOptionals optNames inputs outputs backIn backOut es = some opt) (n : BNode) :
    n ∈ opt ↔ (∃ x ∈ optNames, byName outputs x = some n) ∨
      (n ∈ inputs ∧ (∃ u, UserOf es outputs u n) ∧ ∀ u, UserOf es outputs u n → ∃ x ∈ optNames, byName outputs x = some u) ∨
      n ∈ backIn ∨ n ∈ backOut := by
  unfold detectOptionals at h
  obtain ⟨optOut, hopt, h⟩ := Option.bind_eq_some_iff.1 h
  cases h
  -- the dependants of `n` that the model collects from the table
  have huser : ∀ (visited : List BNode) (u : BNode),
      u ∈ ((depsTable es).filter fun q => visited.contains q.1 && q.2.contains n).map (·.1) ↔
        u ∈ visited ∧ LeafBelow es u n := by
    intro visited u
    rw [← mem_depsTable es hs hac]
    simp only [List.mem_map, List.mem_filter, Bool.and_eq_true, List.contains_eq_mem, decide_eq_true_eq]
    constructor
    · rintro ⟨⟨_, ds⟩, ⟨hq, hv, hi⟩, rfl⟩
      exact ⟨hv, ds, hq, hi⟩
    · rintro ⟨hv, ds, hq, hi⟩
      exact ⟨(u, ds), ⟨hq, hv, hi⟩, rfl⟩
  -- `opt` is `optOut ++ optIn ++ backIn ++ backOut`: membership part by part gives the four alternatives
  simp only [List.mem_append, List.mem_filter, Bool.and_eq_true, Bool.not_eq_true', List.isEmpty_eq_false_iff_exists_mem,
    List.all_eq_true, huser, UserOf, or_assoc]
  simp only [mem_optMapM' hopt, List.contains_eq_mem, decide_eq_true_eq]

end CM
