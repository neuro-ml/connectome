/-
  CM.Proofs.BagStruct — the list-level definitions of `CM.Model.Bag`, each with the lemmas through which the proofs use it:
  names and `byName`, the nodes of a list of edges, the duplicate / single-incoming / leaf tests as propositions,
  the clone helpers, and `RawBag.core` written with `cloneEdges`.
-/
import CM.Proofs.BagSem
import CM.Proofs.NameSetLaws
namespace CM

theorem mem_names {ns : List BNode} {x : String} : x ∈ names ns ↔ ∃ n ∈ ns, n.name = x := List.mem_map

theorem names_append (xs ys : List BNode) : names (xs ++ ys) = names xs ++ names ys := List.map_append

theorem names_inj_of_nodup {ns : List BNode} (h : (names ns).Nodup) :
    ∀ n₁ ∈ ns, ∀ n₂ ∈ ns, n₁.name = n₂.name → n₁ = n₂ := inj_of_nodup_map h

theorem names_filter (ns : List BNode) (p : String → Bool) :
    names (ns.filter fun n => p n.name) = (names ns).filter p := (List.filter_map ..).symm

theorem byName_some {ns : List BNode} {x : String} {n : BNode} (h : byName ns x = some n) : n ∈ ns ∧ n.name = x :=
  ⟨List.mem_of_find?_eq_some h, by simpa using List.find?_some h⟩

theorem byName_of_mem {ns : List BNode} (hu : ∀ n₁ ∈ ns, ∀ n₂ ∈ ns, n₁.name = n₂.name → n₁ = n₂) {n : BNode}
    (hn : n ∈ ns) : byName ns n.name = some n := by
  cases h : byName ns n.name with
  | none => simpa using List.find?_eq_none.1 h n hn
  | some m => rw [hu m (byName_some h).1 n hn (byName_some h).2]

theorem byName_exists {ns : List BNode} {x : String} (h : x ∈ names ns) : ∃ a, byName ns x = some a := by
  obtain ⟨n, hn, rfl⟩ := mem_names.1 h
  exact Option.isSome_iff_exists.1 (List.find?_isSome.2 ⟨n, hn, beq_self_eq_true _⟩)

theorem mem_edgeNodes {es : List BEdge} {n : BNode} : n ∈ edgeNodes es ↔ ∃ e ∈ es, n = e.out ∨ n ∈ e.ins := by
  simp [edgeNodes]

theorem mem_edgeNodes_out {es : List BEdge} {e : BEdge} (h : e ∈ es) : e.out ∈ edgeNodes es :=
  mem_edgeNodes.2 ⟨e, h, .inl rfl⟩

theorem mem_edgeNodes_in {es : List BEdge} {e : BEdge} (h : e ∈ es) {i : BNode} (hi : i ∈ e.ins) :
    i ∈ edgeNodes es :=
  mem_edgeNodes.2 ⟨e, h, .inr hi⟩

theorem edgeNodes_append (xs ys : List BEdge) : edgeNodes (xs ++ ys) = edgeNodes xs ++ edgeNodes ys :=
  List.flatMap_append

theorem identityEdge_node {p q n : BNode} (h : n = (identityEdge p q).out ∨ n ∈ (identityEdge p q).ins) : n = p ∨ n = q :=
  h.symm.imp List.mem_singleton.1 id

theorem mem_nodes3 {b : Bag} {n : BNode} : n ∈ b.nodes3 ↔ n ∈ b.inputs ∨ n ∈ b.outputs ∨ n ∈ edgeNodes b.edges := by
  simp only [Bag.nodes3, List.mem_append, or_assoc]

theorem nodes3_in {b : Bag} {n : BNode} (h : n ∈ b.inputs) : n ∈ b.nodes3 := mem_nodes3.2 (.inl h)
theorem nodes3_out {b : Bag} {n : BNode} (h : n ∈ b.outputs) : n ∈ b.nodes3 := mem_nodes3.2 (.inr (.inl h))
theorem nodes3_eout {b : Bag} {e : BEdge} (h : e ∈ b.edges) : e.out ∈ b.nodes3 :=
  mem_nodes3.2 (.inr (.inr (mem_edgeNodes_out h)))
theorem nodes3_ein {b : Bag} {e : BEdge} (h : e ∈ b.edges) {i : BNode} (hi : i ∈ e.ins) : i ∈ b.nodes3 :=
  mem_nodes3.2 (.inr (.inr (mem_edgeNodes_in h hi)))

/-! ### the tests of `normalize_bag` and `GraphCompiler` as propositions -/

theorem hasDupStr_eq_false {xs : List String} : hasDupStr xs = false ↔ xs.Nodup := by
  induction xs with
  | nil => simp [hasDupStr]
  | cons x xs ih => simp [hasDupStr, ih]

theorem checkDups_bind_ok {α : Type} {ns : List BNode} {k : Unit → Except BagErr α} {a : α} :
    (checkDups ns >>= k) = .ok a ↔ (names ns).Nodup ∧ k () = .ok a := by
  rw [← hasDupStr_eq_false, checkDups]
  cases hasDupStr (names ns) <;> simp [bind, Except.bind]

theorem multipleIncoming_eq_false {es : List BEdge} : multipleIncoming es = false ↔ OutsNodup es := by
  induction es with
  | nil => exact ⟨fun _ => List.nodup_nil, fun _ => rfl⟩
  | cons e es ih =>
    simp only [multipleIncoming, Bool.or_eq_false_iff, List.any_eq_false, beq_iff_eq, ih, OutsNodup, List.map_cons,
      List.nodup_cons, List.mem_map, not_exists, not_and]

theorem multipleIncoming_false {es : List BEdge} (h : multipleIncoming es = false) : SingleIncoming es :=
  outsNodup_single (multipleIncoming_eq_false.1 h)

theorem isLeafIn_eq_true {es : List BEdge} {n : BNode} : isLeafIn es n = true ↔ ∀ e ∈ es, e.out ≠ n := by
  simp only [isLeafIn, incoming, Option.isNone_iff_eq_none, List.find?_eq_none, beq_iff_eq]

theorem incoming_some {es : List BEdge} {n : BNode} {e : BEdge} (h : incoming es n = some e) : e ∈ es ∧ e.out = n :=
  ⟨List.mem_of_find?_eq_some h, by simpa using List.find?_some h⟩

theorem incoming_none {es : List BEdge} {n : BNode} (h : incoming es n = none) : ∀ e ∈ es, e.out ≠ n :=
  isLeafIn_eq_true.1 (Option.isNone_iff_eq_none.2 h)

/-- the clone `cloneEdges` makes of the node `p.1` when the counter stands at `p.2`: a new identity, the same name -/
def cloneAt (p : BNode × Nat) : BNode := ⟨p.2, p.1.name⟩

theorem cloneEdges_eq (flip : Bool) : ∀ (ns : List BNode) (k : Nat), cloneEdges flip ns k =
    ((ns.zipIdx k).map cloneAt,
     (ns.zipIdx k).map (fun p => if flip then identityEdge (cloneAt p) p.1 else identityEdge p.1 (cloneAt p)),
     k + ns.length)
  | [], k => rfl
  | n :: ns, k => by
    simp only [cloneEdges, cloneEdges_eq flip ns (k + 1), List.zipIdx_cons, List.map_cons, List.length_cons, cloneAt,
      Nat.add_assoc, Nat.add_comm 1]

section
variable {flip : Bool} {ns : List BNode} {k : Nat}

theorem cloneEdges_next : (cloneEdges flip ns k).2.2 = k + ns.length := by rw [cloneEdges_eq]

theorem cloneEdges_id {c : BNode} (h : c ∈ (cloneEdges flip ns k).1) : k ≤ c.id ∧ c.id < k + ns.length := by
  rw [cloneEdges_eq] at h
  obtain ⟨p, hp, rfl⟩ := List.mem_map.1 h
  exact ⟨(List.mem_zipIdx hp).1, (List.mem_zipIdx hp).2.1⟩

theorem mem_cloneEdges {e : BEdge} (h : e ∈ (cloneEdges flip ns k).2.1) :
    ∃ n ∈ ns, ∃ c ∈ (cloneEdges flip ns k).1, c.name = n.name ∧
      e = if flip then identityEdge c n else identityEdge n c := by
  rw [cloneEdges_eq] at h ⊢
  obtain ⟨p, hp, rfl⟩ := List.mem_map.1 h
  exact ⟨p.1, List.fst_mem_of_mem_zipIdx hp, _, List.mem_map_of_mem hp, rfl, rfl⟩

theorem edgeNodes_cloneEdges {n : BNode} (h : n ∈ edgeNodes (cloneEdges flip ns k).2.1) :
    n ∈ ns ∨ n ∈ (cloneEdges flip ns k).1 := by
  obtain ⟨e, he, hn⟩ := mem_edgeNodes.1 h
  obtain ⟨m, hm, c, hc, -, rfl⟩ := mem_cloneEdges he
  cases flip
  · rcases identityEdge_node hn with rfl | rfl
    · exact .inl hm
    · exact .inr hc
  · rcases identityEdge_node hn with rfl | rfl
    · exact .inr hc
    · exact .inl hm

theorem cloneEdges_of_source {n : BNode} (h : n ∈ ns) : ∃ c ∈ (cloneEdges flip ns k).1, c.name = n.name ∧
    (if flip then identityEdge c n else identityEdge n c) ∈ (cloneEdges flip ns k).2.1 := by
  rw [← List.zipIdx_map_fst k ns] at h
  obtain ⟨p, hp, rfl⟩ := List.mem_map.1 h
  rw [cloneEdges_eq]
  exact ⟨_, List.mem_map_of_mem hp, rfl, List.mem_map_of_mem hp⟩

theorem cloneEdges_of_clone {c : BNode} (h : c ∈ (cloneEdges flip ns k).1) : ∃ n ∈ ns, c.name = n.name ∧
    (if flip then identityEdge c n else identityEdge n c) ∈ (cloneEdges flip ns k).2.1 := by
  rw [cloneEdges_eq] at h ⊢
  obtain ⟨p, hp, rfl⟩ := List.mem_map.1 h
  exact ⟨p.1, List.fst_mem_of_mem_zipIdx hp, rfl, List.mem_map_of_mem hp⟩

end

theorem cloneEdges_names (flip : Bool) (ns : List BNode) (next : Nat) :
    names (cloneEdges flip ns next).1 = names ns := by
  have := congrArg names (List.zipIdx_map_fst next ns)
  rw [cloneEdges_eq]
  simp only [names, List.map_map] at this ⊢
  exact this

theorem addIdentities_eq : ∀ (ns : List BNode) (k : Nat), addIdentities ns k = cloneEdges false ns k
  | [], _ => rfl
  | n :: ns, k => by simp [addIdentities, cloneEdges, addIdentities_eq ns (k + 1)]

/-! ### `RawBag.core`: its fields, rule 3 written with `cloneEdges` (the inputs, persistent names, optional nodes and context are the given ones, by `rfl`) -/

theorem RawBag.mem_rule3 {r : RawBag} {i : BNode} : i ∈ r.rule3 ↔
    i ∈ r.inputs ∧ (r.virt.mem i.name || r.persistent.contains i.name) = true ∧ i.name ∉ names r.outputs := by
  simp only [RawBag.rule3, List.mem_filter, Bool.and_eq_true, Bool.not_eq_true', List.contains_eq_mem,
    decide_eq_false_iff_not]

theorem RawBag.mem_names_rule3 (r : RawBag) (x : String) :
    x ∈ names r.rule3 ↔ x ∈ names r.inputs ∧ (r.virt.mem x = true ∨ x ∈ r.persistent) ∧ x ∉ names r.outputs := by
  simp only [mem_names, RawBag.mem_rule3, Bool.or_eq_true, List.contains_eq_mem, decide_eq_true_eq]
  constructor
  · rintro ⟨i, ⟨hi, h⟩, rfl⟩
    exact ⟨⟨i, hi, rfl⟩, h⟩
  · rintro ⟨⟨i, hi, rfl⟩, h⟩
    exact ⟨i, ⟨hi, h⟩, rfl⟩

theorem RawBag.core_outputs (r : RawBag) : r.core.outputs = r.outputs ++ (cloneEdges false r.rule3 r.next).1 := by
  simp only [RawBag.core, addIdentities_eq]

theorem RawBag.core_edges (r : RawBag) : r.core.edges = r.edges ++ (cloneEdges false r.rule3 r.next).2.1 := by
  simp only [RawBag.core, addIdentities_eq]

theorem RawBag.core_next (r : RawBag) : r.core.next = r.next + r.rule3.length := by
  simp only [RawBag.core, addIdentities_eq, cloneEdges_next]

theorem RawBag.core_virt (r : RawBag) (x : String) :
    r.core.virt.mem x = (r.virt.mem x && !decide (x ∈ names r.rule3)) := by
  simp only [RawBag.core, NameSet.mem_diff, NameSet.mem_fin, List.contains_eq_mem]

theorem RawBag.core_edges_sub {r : RawBag} {e : BEdge} (h : e ∈ r.edges) : e ∈ r.core.edges := List.mem_append_left _ h
theorem RawBag.core_outputs_sub {r : RawBag} {o : BNode} (h : o ∈ r.outputs) : o ∈ r.core.outputs := List.mem_append_left _ h

theorem RawBag.core_edge_inv {r : RawBag} {e : BEdge} (h : e ∈ r.core.edges) : e ∈ r.edges ∨ r.next ≤ e.out.id := by
  rw [r.core_edges] at h
  refine (List.mem_append.1 h).imp_right fun h => ?_
  obtain ⟨_, _, c, hc, -, rfl⟩ := mem_cloneEdges h
  exact (cloneEdges_id hc).1

theorem RawBag.core_of_rule3_nil {r : RawBag} (h : r.rule3 = []) :
    r.core.outputs = r.outputs ∧ r.core.edges = r.edges := by
  simp only [r.core_outputs, r.core_edges, h, cloneEdges, List.append_nil, and_self]

theorem RawBag.names_core_outputs (r : RawBag) : names r.core.outputs = names r.outputs ++ names r.rule3 := by
  rw [r.core_outputs, names_append, cloneEdges_names]

/-- every node of the bag is one of the arguments of `EdgesBag(...)` or a clone made by rule 3 -/
theorem RawBag.core_nodes3 {r : RawBag} {n : BNode} (h : n ∈ r.core.nodes3) :
    n ∈ r.inputs ++ r.outputs ++ edgeNodes r.edges ∨ r.next ≤ n.id ∧ n.id < r.core.next := by
  rw [r.core_next]
  rw [mem_nodes3, r.core_outputs, r.core_edges, edgeNodes_append] at h
  simp only [List.mem_append] at h
  rcases h with h | (h | h) | h | h
  · exact .inl (by simp [show n ∈ r.inputs from h])
  · exact .inl (by simp [h])
  · exact .inr (cloneEdges_id h)
  · exact .inl (by simp [h])
  · rcases edgeNodes_cloneEdges h with h | h
    · exact .inl (by simp [(RawBag.mem_rule3.1 h).1])
    · exact .inr (cloneEdges_id h)

end CM
