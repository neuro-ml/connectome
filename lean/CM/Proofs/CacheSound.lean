/-
  CM.Proofs.CacheSound — stage 2 of `vm_correct` (DESIGN.md §4): soundness, for graphs that may contain cache edges.

  A family `F` of (graph, configuration) pairs shares the stores of the world (one pipeline called on many inputs,
  rebuilt pipelines, pipeline variants on the same storage).  Two assumptions about the family:

    * `Faithful F ex` — C05 as a hypothesis: two nodes of the family whose node hashes both match one stored key (by
      the key equality of the store: Python `==` for RAM tables, equality of pickled bytes for disk tables) have the
      same value;
    * `StoreSound F w` — every entry of every store of the world is right: it holds the value of every node of the
      family whose hash matches its key; and the hashes are faithful for the key equality of every store there is
      (`Faithful` is a conjunct of `StoreSound`, per store, so a world without stores asks nothing, and the theorems
      downstream carry the one hypothesis `StoreSound`).

  Under them a run of `big` (hence of the stack machine) returns the cache-free denotation, and `StoreSound` is
  preserved by every run, returning or raising — so it holds along every history of calls.  The graph has to belong to
  the family only if it has a cache edge: a cache-free graph is sound relative to the empty family, on any stores.
-/
import CM.Proofs.Sound
import CM.Proofs.InterpLemmas
import CM.Proofs.StoreLemmas
import CM.Proofs.Deps
import CM.Proofs.Deriv
namespace CM

abbrev Fam := Graph → DenCfg → Prop

def keyEqB (ex : Bool) (a b : NHash) : Bool := if ex then a == b else hashKeyEq a b

theorem keyEqB_eq (st : MemStore) (a b : NHash) : st.keyEq a b = keyEqB st.exact a b := rfl

theorem keyEqB_refl (ex : Bool) (a : NHash) : keyEqB ex a a = true :=
  MemStore.keyEq_refl ⟨none, [], ex⟩ a

/-- C05 as a hypothesis on the family -/
def Faithful (F : Fam) (ex : Bool) : Prop :=
  ∀ (k : NHash) (g : Graph) (d : DenCfg) (n : Nat) (h : NHash) (pl : Val) (v : Val)
    (g' : Graph) (d' : DenCfg) (n' : Nat) (h' : NHash) (pl' : Val),
    F g d → F g' d' → (den g d n).h = .ok (h, pl) → (den g' d' n').h = .ok (h', pl') →
    keyEqB ex k h = true → keyEqB ex k h' = true → (den g d n).v = .ok v → (den g' d' n').v = .ok v

/-- the entry `(k, v)` is right for every node of the family whose hash matches `k` -/
def RightFor (F : Fam) (ex : Bool) (k : NHash) (v : Val) : Prop :=
  ∀ (g : Graph) (d : DenCfg) (n : Nat) (h : NHash) (pl : Val), F g d → (den g d n).h = .ok (h, pl) → keyEqB ex k h = true →
    (den g d n).v = .ok v

/-- every entry of every store is right for the family, and the family's hashes are faithful for that store's key equality -/
def StoreSound (F : Fam) (w : World) : Prop :=
  ∀ (s : Nat) (st : MemStore), w.stores[s]? = some st → (∀ p ∈ st.table, RightFor F st.exact p.1 p.2) ∧ Faithful F st.exact

/-- programs whose cache operations are justified by the denotation of node `n` -/
inductive CacheOK (F : Fam) (g : Graph) (d : DenCfg) (n : Nat) : Prog → Prop
  | ret (x : Item) : CacheOK F g d n (.ret x)
  | raise (e : Err) : CacheOK F g d n (.raise e)
  | req (r : Req) (k : Item → Prog) :
      (∀ x, interpReq (ctxOf g d n) r = .ok x → CacheOK F g d n (k x)) → CacheOK F g d n (.req r k)
  | get (s : Nat) (h : NHash) (k : Option Val → Prog) :
      CacheOK F g d n (k none) → (∀ v, CacheOK F g d n (k (some v))) →
      (∀ ex k' v, RightFor F ex k' v → keyEqB ex k' h = true → interp (ctxOf g d n) (k (some v)) = interp (ctxOf g d n) (k none)) →
      (∀ v q, q ∈ progDeps (ctxOf g d n) (k (some v)) → q ∈ progDeps (ctxOf g d n) (k none)) →
      CacheOK F g d n (.eff (.get s h) k)
  | set (s : Nat) (h : NHash) (v : Val) (k : Option Val → Prog) :
      CacheOK F g d n (k none) → (∀ ex k', Faithful F ex → keyEqB ex k' h = true → RightFor F ex k' v) →
      CacheOK F g d n (.eff (.set s h v) k)

theorem CacheOK.of_noEff {F : Fam} {g : Graph} {d : DenCfg} {n : Nat} {p : Prog} (h : p.NoEff) : CacheOK F g d n p := by
  induction h with
  | ret x => exact .ret x
  | raise e => exact .raise e
  | req r k _ ih => exact .req r k (fun x _ => ih x)

theorem storeSound_set_store {F : Fam} {w : World} {s : Nat} {st st' : MemStore} (hw : StoreSound F w)
    (hs : w.stores[s]? = some st) (hex : st'.exact = st.exact)
    (hsub : ∀ p ∈ st'.table, RightFor F st.exact p.1 p.2) : StoreSound F { w with stores := w.stores.set s st' } := by
  intro j stj hj
  simp only [List.getElem?_set] at hj
  split at hj
  · next hsj =>
    subst hsj
    split at hj
    · injection hj with hj; subst hj
      rw [hex]
      exact ⟨hsub, (hw s st hs).2⟩
    · cases hj
  · exact hw j stj hj

/-- running the cache operations of a justified program keeps the stores sound and does not change its meaning -/
theorem runEffs_cacheOK {F : Fam} {g : Graph} {d : DenCfg} {n : Nat} {p : Prog} (hp : CacheOK F g d n p) :
    ∀ w, StoreSound F w →
      CacheOK F g d n (runEffs p w).1 ∧ StoreSound F (runEffs p w).2 ∧
      interp (ctxOf g d n) (runEffs p w).1 = interp (ctxOf g d n) p := by
  induction hp with
  | ret x => intro w hw; exact ⟨.ret x, hw, rfl⟩
  | raise e => intro w hw; exact ⟨.raise e, hw, rfl⟩
  | req r k hk _ => intro w hw; exact ⟨.req r k hk, hw, rfl⟩
  | get s h k _ _ hob _ ih0 ih1 =>
    intro w hw
    simp only [runEffs, World.doOp]
    cases hs : w.stores[s]? with
    | none =>
      simp only
      obtain ⟨a, b, c⟩ := ih0 w hw
      exact ⟨a, b, by rw [c]; rfl⟩
    | some st =>
      simp only
      have hw' : StoreSound F { w with stores := w.stores.set s (st.get h).2 } :=
        storeSound_set_store hw hs (st.get_exact h) (fun p hp => (hw s st hs).1 p (st.get_sub h p hp))
      cases hr : (st.get h).1 with
      | none =>
        obtain ⟨a, b, c⟩ := ih0 _ hw'
        exact ⟨a, b, by rw [c]; rfl⟩
      | some v =>
        obtain ⟨p, hpm, hpv, hpk⟩ := st.get_hit h v hr
        have hright : RightFor F st.exact p.1 v := by rw [← hpv]; exact (hw s st hs).1 p hpm
        obtain ⟨a, b, c⟩ := ih1 v _ hw'
        refine ⟨a, b, ?_⟩
        rw [c, hob st.exact p.1 v hright hpk]
        rfl
  | set s h v k _ hob ih0 =>
    intro w hw
    simp only [runEffs, World.doOp]
    cases hs : w.stores[s]? with
    | none =>
      simp only
      obtain ⟨a, b, c⟩ := ih0 w hw
      exact ⟨a, b, by rw [c]; rfl⟩
    | some st =>
      simp only
      have hw' : StoreSound F { w with stores := w.stores.set s (st.set h v) } := by
        refine storeSound_set_store hw hs (st.set_exact h v) (fun p hp => ?_)
        rcases st.set_sub h v p hp with hold | ⟨hv, hk⟩
        · exact (hw s st hs).1 p hold
        · rw [hv]; exact hob st.exact p.1 (hw s st hs).2 hk
      obtain ⟨a, b, c⟩ := ih0 _ hw'
      exact ⟨a, b, by rw [c]; rfl⟩

/-- a hit only shortens what the program asks for -/
theorem runEffs_deps {F : Fam} {g : Graph} {d : DenCfg} {n : Nat} {p : Prog} (hp : CacheOK F g d n p) :
    ∀ w q, q ∈ progDeps (ctxOf g d n) (runEffs p w).1 → q ∈ progDeps (ctxOf g d n) p := by
  induction hp with
  | ret x => intro w q h; exact h
  | raise e => intro w q h; exact h
  | req r k _ _ => intro w q h; exact h
  | get s h k _ _ _ hdeps ih0 ih1 =>
    intro w q hq
    simp only [runEffs, World.doOp] at hq
    simp only [progDeps]
    cases hs : w.stores[s]? with
    | none => simp only [hs] at hq; exact ih0 _ q hq
    | some st =>
      simp only [hs] at hq
      cases hr : (st.get h).1 with
      | none => simp only [hr] at hq; exact ih0 _ q hq
      | some v => simp only [hr] at hq; exact hdeps v q (ih1 v _ q hq)
  | set s h v k _ _ ih0 =>
    intro w q hq
    simp only [runEffs, World.doOp] at hq
    simp only [progDeps]
    cases hs : w.stores[s]? with
    | none => simp only [hs] at hq; exact ih0 _ q hq
    | some st => simp only [hs] at hq; exact ih0 _ q hq

/-- `CacheEdge.evaluate` is justified: a hit is a right value, and what it stores is the value of its node -/
theorem cache_evalProg_ok (F : Fam) (g : Graph) (d : DenCfg) (n s a : Nat) (hF : F g d)
    (hden : (den g d n).v = (interp (ctxOf g d n) ((EdgeK.cache s).evalProg a)).bind Item.asVal) :
    CacheOK F g d n ((EdgeK.cache s).evalProg a) := by
  simp only [EdgeK.evalProg] at hden ⊢
  refine .req _ _ ?_
  intro x hx
  -- the answer to `CurrentHash` is the hash of this node
  simp only [interpReq, ctxOf] at hx
  cases hh : (den g d n).h with
  | error e => simp [hh, Except.map] at hx
  | ok hp =>
    obtain ⟨h, pl⟩ := hp
    simp only [hh, Except.map] at hx
    injection hx with hx; subst hx
    simp only
    have hcur : interpReq (ctxOf g d n) .currentHash = .ok (.hash h) := by
      simp only [interpReq, ctxOf, hh, Except.map]
    simp only [interp, hcur] at hden
    -- `hden : (den n).v = (interp c (k2 none)).bind asVal`
    refine .get s h _ ?_ (fun v => .ret _) ?_ (fun v q hq => by simp [progDeps] at hq)
    · refine .req _ _ ?_
      intro y hy
      simp only [interpReq] at hy
      cases hpv : (ctxOf g d n).pv 0 with
      | error e => simp [hpv, Except.map] at hy
      | ok v' =>
        simp only [hpv, Except.map] at hy
        injection hy with hy; subst hy
        simp only
        have hval : (den g d n).v = .ok v' := by
          rw [hden]
          simp only [interp, interpReq, hpv, Except.map]
          rfl
        refine .set s h v' _ (.ret _) ?_
        intro ex k' hfa hk g' d' n' h' pl' hF' hh' hk'
        exact hfa k' g d n h pl v' g' d' n' h' pl' hF hF' hh hh' hk hk' hval
    · intro ex k' v hright hk
      have hv := hright g d n h pl hF hh hk
      rw [hden] at hv
      have hk2 := bind_asVal_ok hv
      dsimp only
      simp only [interp] at hk2 ⊢
      rw [hk2]

/-! ### soundness of the evaluator with caches -/

/-- well-formed graphs that may contain cache edges -/
structure GraphOKC (g : Graph) : Prop extends GraphBase g where
  wfc : ∀ (n : Nat) (nd : Node) (e : EdgeK), g.nodes[n]? = some nd → nd.edge = some e → e.wf = true ∨ ∃ s, e = .cache s

/-- `MemSound`, `StoreSound` and membership in one record: the hypothesis of `big_sound_c`, the fuel-level form of `Returns.sound` /
`Throws.sound`; the theorems over derivations thread the three separately -/
structure MemSoundC (F : Fam) (g : Graph) (d : DenCfg) (m : Mem) : Prop where
  mem : MemSound g d m
  stores : StoreSound F m.world
  fam : F g d

/-- programs handed to the evaluator have justified cache operations -/
def TaskOKC (F : Fam) (g : Graph) (d : DenCfg) : Task → Prop
  | .prog n p => CacheOK F g d n p
  | _ => True

/-- what a finished task establishes: the denotation for a result, sound stores in any case -/
def SoundRes (F : Fam) (g : Graph) (d : DenCfg) (t : Task) : BRes → Prop
  | .ok x m' => MemSoundC F g d m' ∧ Post g d t x
  | .raised _ m' => StoreSound F m'.world
  | .fuel => True

theorem GraphOKC.edge_wf {g : Graph} (ok : GraphOKC g) {n : Nat} {e : EdgeK} (he : (g.node n).edge = some e) :
    e.WfOrCache :=
  ok.wfc n _ e (node_of_edge he) he

/-- `g` has a cache edge -/
def Graph.HasCache (g : Graph) : Prop := ∃ n s, (g.node n).edge = some (.cache s)

theorem den_hash {g : Graph} (d : DenCfg) (ok : GraphOKC g) {n : Nat} {e : EdgeK} (he : (g.node n).edge = some e) :
    (den g d n).h = (interp (ctxOf g d n) (e.hashProg (g.parents n).length)).bind Item.asHout := by
  rw [(den_inner g d ok.toGraphBase n e he).1, interp_noCur _ _ _ (hashProg_noCur e _ (ok.edge_wf he))]

/-- the cache operations at the head of a justified program, run on sound stores -/
theorem CacheOK.head {F : Fam} {g : Graph} {d : DenCfg} {n : Nat} {p p' : Prog} {m : Mem} {w : World} (hp : CacheOK F g d n p)
    (hs : MemSound g d m) (hw : StoreSound F m.world) (hr : runEffs p m.world = (p', w)) :
    CacheOK F g d n p' ∧ interp (ctxOf g d n) p' = interp (ctxOf g d n) p ∧ MemSound g d { m with world := w } ∧ StoreSound F w ∧
      w.log = m.world.log := by
  obtain ⟨hc', hw', hint⟩ := runEffs_cacheOK hp m.world hw
  rw [hr] at hc' hw' hint
  exact ⟨hc', hint, hs.world (runEffs_fixed hr), hw', runEffs_log hr⟩

section
variable {F : Fam} {g : Graph} {d : DenCfg} (ok : GraphOKC g) (hF : g.HasCache → F g d)
include ok hF

theorem genProg_cacheOK {n : Nat} {e : EdgeK} (he : (g.node n).edge = some e) (hp : Bool) : CacheOK F g d n (genProg g n e hp) := by
  cases hp with
  | true => exact .of_noEff (hashProg_noEff e _ (ok.edge_wf he))
  | false =>
    rcases ok.edge_wf he with h | ⟨s, rfl⟩
    · exact .of_noEff (evalProg_noEff e _ h)
    · exact cache_evalProg_ok F g d n s _ (hF ⟨n, s, he⟩) (den_val d ok.toGraphBase he)

/-- **Soundness, returning runs.**  From sound memo tables and sound stores, a task that returns leaves both sound and returns what the
cache-free denotation prescribes.  The graph has to belong to the family only if it has a cache edge. -/
theorem Returns.sound {t : Task} {m : Mem} {x : Item} {m' : Mem} (h : Returns g t m x m') :
    MemSound g d m → StoreSound F m.world → TaskOKC F g d t → (MemSound g d m' ∧ StoreSound F m'.world) ∧ Post g d t x := by
  induction h with
  | hashHit hx => exact fun hs hw _ => ⟨⟨hs, hw⟩, hs.hashes _ _ hx⟩
  | hashRun _ he _ _ hset ih =>
    intro hs hw _
    obtain ⟨⟨hs1, hw1⟩, hint⟩ := ih hs hw (genProg_cacheOK ok hF he true)
    have hden := den_hash d ok he
    rw [show interp _ _ = _ from hint] at hden
    exact ⟨⟨hs1.setHash hden hset, hw1⟩, hden⟩
  | valueHit hx => exact fun hs hw _ => ⟨⟨hs, hw⟩, _, rfl, hs.vals _ _ hx⟩
  | valueRun _ he _ _ hset ih =>
    intro hs hw _
    obtain ⟨⟨hs1, hw1⟩, hint⟩ := ih hs hw (genProg_cacheOK ok hF he false)
    have hden := den_val d ok.toGraphBase he
    rw [show interp _ _ = _ from hint] at hden
    exact ⟨⟨hs1.setVal hden hset, hw1⟩, _, rfl, hden⟩
  | @progRet n p m x w _ _ hr hev =>
    intro hs hw hp
    obtain ⟨_, hint, hs', hw', _⟩ := CacheOK.head (n := n) hp hs hw hr
    exact ⟨⟨hs'.evict hev, hw'⟩, hint.symm⟩
  | @progReq n p m r k w y _ _ _ hr _ _ ihr ihk =>
    intro hs hw hp
    obtain ⟨hc', hint, hs', hw', _⟩ := CacheOK.head (n := n) hp hs hw hr
    obtain ⟨⟨hs1, hw1⟩, hr1⟩ := ihr hs' hw' trivial
    cases hc' with
    | req _ _ hk =>
      obtain ⟨hsw2, hp2⟩ := ihk hs1 hw1 (hk y hr1)
      refine ⟨hsw2, ?_⟩
      show interp _ p = _
      rw [← hint]
      simp only [interp, show interpReq _ r = _ from hr1]
      exact hp2
  | parentHash hp _ ih =>
    intro hs hw _
    obtain ⟨hsw, hpost⟩ := ih hs hw trivial
    exact ⟨hsw, by simp only [Post, interpReq, ctxOf, hp, show (den g d _).h = _ from hpost, Item.asHout, Except.map]⟩
  | parentValue hp _ ih =>
    intro hs hw _
    obtain ⟨hsw, v, rfl, hden⟩ := ih hs hw trivial
    exact ⟨hsw, by simp only [Post, interpReq, ctxOf, hp, hden, Except.map]⟩
  | currentHash _ ih =>
    intro hs hw _
    obtain ⟨hsw, hpost⟩ := ih hs hw trivial
    exact ⟨hsw, by simp only [Post, interpReq, ctxOf, show (den g d _).h = _ from hpost, Item.asHout, Except.map]⟩
  | payload _ ih =>
    intro hs hw _
    obtain ⟨hsw, hpost⟩ := ih hs hw trivial
    exact ⟨hsw, by simp only [Post, interpReq, ctxOf, show (den g d _).h = _ from hpost, Item.asHout, Except.map]⟩
  | await _ ih =>
    intro hs hw _
    obtain ⟨hsw, xs, hxs, rfl⟩ := ih hs hw trivial
    rw [List.reverse_reverse] at hxs
    exact ⟨hsw, by simp only [Post, interpReq, hxs, Except.map, List.append_nil]⟩
  | @call n fn pos kwn kwv m v w hc =>
    intro hs hw _
    have hv := call_ok hs hc
    obtain rfl := call_world hc
    exact ⟨⟨hs.world rfl, hw⟩, by simp only [Post, interpReq, ctxOf, hv]⟩
  | reqsNil => exact fun hs hw _ => ⟨⟨hs, hw⟩, [], rfl, rfl⟩
  | @reqsCons _ r _ _ _ y _ _ _ _ _ ihr ihk =>
    intro hs hw _
    obtain ⟨⟨hs1, hw1⟩, hr1⟩ := ihr hs hw trivial
    obtain ⟨hsw2, xs, hxs, rfl⟩ := ihk hs1 hw1 trivial
    refine ⟨hsw2, xs ++ [y], ?_, by simp⟩
    simp only [List.reverse_cons, interpReqs_snoc, show interpReq _ r = _ from hr1, hxs, Except.map]

/-- **Soundness, raising runs**: the stores stay sound. -/
theorem Throws.sound {t : Task} {m : Mem} {e : Err} {m' : Mem} (h : Throws g t m e m') :
    MemSound g d m → StoreSound F m.world → TaskOKC F g d t → StoreSound F m'.world := by
  induction h with
  | hashLeaf | valueLeaf | noParent => exact fun _ hw _ => hw
  | hashProg _ he _ ih => exact fun hs hw _ => ih hs hw (genProg_cacheOK ok hF he true)
  | hashStore _ he hr _ => exact fun hs hw _ => (hr.sound ok hF hs hw (genProg_cacheOK ok hF he true)).1.2
  | valueProg _ he _ ih => exact fun hs hw _ => ih hs hw (genProg_cacheOK ok hF he false)
  | valueStore _ he hr _ => exact fun hs hw _ => (hr.sound ok hF hs hw (genProg_cacheOK ok hF he false)).1.2
  | @progEvict n _ _ _ _ hr _ | @progRaise n _ _ _ _ hr => exact fun hs hw hp => (CacheOK.head (n := n) hp hs hw hr).2.2.2.1
  | @progReq n _ _ _ _ _ _ _ hr _ ih =>
    intro hs hw hp
    obtain ⟨_, _, hs', hw', _⟩ := CacheOK.head (n := n) hp hs hw hr
    exact ih hs' hw' trivial
  | @progCont n _ _ _ _ _ y _ _ _ hr hy _ ih =>
    intro hs hw hp
    obtain ⟨hc', _, hs', hw', _⟩ := CacheOK.head (n := n) hp hs hw hr
    obtain ⟨⟨hs1, hw1⟩, hr1⟩ := hy.sound ok hF hs' hw' trivial
    cases hc' with
    | req _ _ hk => exact ih hs1 hw1 (hk y hr1)
  | parentHash _ _ ih | parentValue _ _ ih | current _ _ ih | await _ ih | reqsHead _ ih => exact fun hs hw _ => ih hs hw trivial
  | parentHashBad _ hr _ | currentBad _ hr _ => exact fun hs hw _ => (hr.sound ok hF hs hw trivial).1.2
  | @call n fn pos kwn kwv m _ w hc =>
    obtain rfl := call_world hc
    exact fun _ hw _ => hw
  | reqsTail hy _ ih =>
    intro hs hw _
    obtain ⟨⟨hs1, hw1⟩, _⟩ := hy.sound ok hF hs hw trivial
    exact ih hs1 hw1 trivial

end

theorem big_sound_c (F : Fam) (g : Graph) (d : DenCfg) (ok : GraphOKC g) : ∀ (f : Nat) (t : Task) (m : Mem),
    MemSoundC F g d m → TaskOKC F g d t → SoundRes F g d t (big g f t m) := by
  intro f t m hs ht
  have hd := big_deriv g f t m
  cases hq : big g f t m with
  | fuel => trivial
  | ok x m' =>
    rw [hq] at hd
    obtain ⟨⟨h1, h2⟩, h3⟩ := hd.sound ok (fun _ => hs.fam) hs.mem hs.stores ht
    exact ⟨⟨h1, h2, hs.fam⟩, h3⟩
  | raised e m' => rw [hq] at hd; exact hd.sound ok (fun _ => hs.fam) hs.mem hs.stores ht

/-- the cache-free case: the family may be empty -/
theorem storeSound_empty (w : World) : StoreSound (fun _ _ => False) w :=
  fun _ _ _ => ⟨fun _ _ _ _ _ _ _ hF => hF.elim, fun _ _ _ _ _ _ _ _ _ _ _ _ hF => hF.elim⟩

theorem GraphOK.toC {g : Graph} (ok : GraphOK g) : GraphOKC g := ⟨ok.toGraphBase, fun n nd e hn he => .inl (ok.wf n nd e hn he)⟩

theorem GraphOK.noCache {g : Graph} (ok : GraphOK g) : ¬ g.HasCache := by
  rintro ⟨n, s, he⟩
  exact absurd (ok.edge_wf he) (by simp [EdgeK.wf])

/-- programs handed to the evaluator are cache-free -/
def TaskOK : Task → Prop
  | .prog _ p => p.NoEff
  | _ => True

/-- soundness on a cache-free graph: the stores play no part -/
theorem Returns.sound_free {g : Graph} {d : DenCfg} (ok : GraphOK g) {t : Task} {m : Mem} {x : Item} {m' : Mem}
    (h : Returns g t m x m') (hs : MemSound g d m) (ht : TaskOK t) : MemSound g d m' ∧ Post g d t x := by
  have htc : TaskOKC (fun _ _ => False) g d t := by
    cases t <;> first | trivial | exact CacheOK.of_noEff ht
  have := h.sound ok.toC (fun h => absurd h ok.noCache) hs (storeSound_empty _) htc
  exact ⟨this.1.1, this.2⟩

end CM
