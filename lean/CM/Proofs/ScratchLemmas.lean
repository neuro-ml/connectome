/-
  CM.Proofs.ScratchLemmas — the scratch tables of a call (`EvictionCache`, CM.Model.VM `Scratch`): what `set` writes and
  what `evict` keeps of the memoised entries.  `evict` against a counter function is in CM.Proofs.CountInv.
-/
import CM.Model.VM
namespace CM

theorem upd_ne_none {α : Type} {f : Nat → Option α} {k j : Nat} {v : α} (h : j ≠ k → f j ≠ none) : upd f k (some v) j ≠ none := by
  simp only [upd]
  split
  · simp
  · next hjk => exact h hjk

theorem Scratch.set_eq {α : Type} {s s' : Scratch α} {k : Nat} {v : α} (h : s.set k v = some s') :
    s' = { s with memo := upd s.memo k (some v) } := by
  unfold Scratch.set at h
  split at h <;> cases h
  rfl

/-- what holds of every memoised entry holds after `set`, if it holds of the entry written -/
theorem Scratch.set_memo {α : Type} {s s' : Scratch α} {k : Nat} {v : α} {P : Nat → α → Prop} (hset : s.set k v = some s')
    (h : ∀ j y, s.memo j = some y → P j y) (hk : P k v) : ∀ j y, s'.memo j = some y → P j y := by
  cases Scratch.set_eq hset
  intro j y hj
  simp only [upd] at hj
  split at hj
  · next hjk => cases hj; exact hjk ▸ hk
  · exact h j y hj

theorem Scratch.set_ne_none {α : Type} {s : Scratch α} {k : Nat} {v : α} (h : s.counts k ≠ none) : s.set k v ≠ none := by
  unfold Scratch.set
  split
  · exact absurd ‹_› h
  · nofun

theorem evict_memo {α : Type} (s s' : Scratch α) (k j : Nat) (v : α) (h : s.evict k = some s') (hm : s'.memo j = some v) :
    s.memo j = some v := by
  unfold Scratch.evict at h
  split at h
  · cases h
  · cases h
  · injection h with h; subst h
    simp only [upd] at hm
    split at hm
    · cases hm
    · exact hm
  · injection h with h; subst h; exact hm

theorem evictAll_memo : ∀ {ps : List Nat} {h : Scratch Item} {c : Scratch Val} {h' : Scratch Item} {c' : Scratch Val},
    evictAll ps h c = some (h', c') → (∀ j x, h'.memo j = some x → h.memo j = some x) ∧ (∀ j v, c'.memo j = some v → c.memo j = some v)
  | [], h, c, h', c', he => by
    simp only [evictAll] at he; injection he with he; injection he with h1 h2; subst h1; subst h2
    exact ⟨fun _ _ h => h, fun _ _ h => h⟩
  | p :: ps, h, c, h', c', he => by
    simp only [evictAll] at he
    cases hh : h.evict p with
    | none => simp [hh] at he
    | some h1 =>
      cases hc : c.evict p with
      | none => simp [hh, hc] at he
      | some c1 =>
        simp only [hh, hc] at he
        obtain ⟨i1, i2⟩ := evictAll_memo he
        exact ⟨fun j x hx => evict_memo h h1 p j x hh (i1 j x hx), fun j v hv => evict_memo c c1 p j v hc (i2 j v hv)⟩

end CM
