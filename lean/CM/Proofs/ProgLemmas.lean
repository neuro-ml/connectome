/-
  CM.Proofs.ProgLemmas — syntactic facts about the request programs of the edges.  One predicate, `Prog.Tame`, says
  everything the proofs need of the programs of cache-free edges: no cache operation, whether the node's own hash may be
  asked for, and how many user calls a run can issue; the three notions in use (`NoEff`, `NoCur`, `CallsLe`) follow from it.
-/
import CM.Model.VM
namespace CM

mutual
  def Req.noCur : Req → Bool
    | .currentHash => false
    | .payload => false
    | .await rs => Req.noCurList rs
    | _ => true
  def Req.noCurList : List Req → Bool
    | [] => true
    | r :: rs => r.noCur && Req.noCurList rs
end

mutual
  def Req.ncalls : Req → Nat
    | .call _ _ _ _ => 1
    | .await rs => Req.ncallsList rs
    | _ => 0
  def Req.ncallsList : List Req → Nat
    | [] => 0
    | r :: rs => r.ncalls + Req.ncallsList rs
end

/-- no cache operation anywhere in the program -/
inductive Prog.NoEff : Prog → Prop
  | ret (x : Item) : NoEff (.ret x)
  | raise (e : Err) : NoEff (.raise e)
  | req (r : Req) (k : Item → Prog) : (∀ x, NoEff (k x)) → NoEff (.req r k)

/-- no request for the node's own hash or payload anywhere in the program -/
inductive Prog.NoCur : Prog → Prop
  | ret (x : Item) : NoCur (.ret x)
  | raise (e : Err) : NoCur (.raise e)
  | req (r : Req) (k : Item → Prog) : r.noCur = true → (∀ x, NoCur (k x)) → NoCur (.req r k)

/-- along every path the program issues at most `b` calls -/
inductive Prog.CallsLe : Nat → Prog → Prop
  | ret (b : Nat) (x : Item) : CallsLe b (.ret x)
  | raise (b : Nat) (e : Err) : CallsLe b (.raise e)
  | req (b : Nat) (r : Req) (k : Item → Prog) : r.ncalls ≤ b → (∀ x, CallsLe (b - r.ncalls) (k x)) → CallsLe b (.req r k)
  | eff (b : Nat) (op : StoreOp) (k : Option Val → Prog) : (∀ x, CallsLe b (k x)) → CallsLe b (.eff op k)

/-- a program without cache operations that asks for the node's own hash only if `cur`, and issues at most `b` calls -/
inductive Prog.Tame (cur : Bool) : Nat → Prog → Prop
  | ret (b : Nat) (x : Item) : Tame cur b (.ret x)
  | raise (b : Nat) (e : Err) : Tame cur b (.raise e)
  | req (b : Nat) (r : Req) (k : Item → Prog) : (cur = false → r.noCur = true) → r.ncalls ≤ b →
      (∀ x, Tame cur (b - r.ncalls) (k x)) → Tame cur b (.req r k)

theorem Prog.Tame.noEff {cur : Bool} {b : Nat} {p : Prog} (h : p.Tame cur b) : p.NoEff := by
  induction h with
  | ret _ x => exact .ret x
  | raise _ e => exact .raise e
  | req _ r k _ _ _ ih => exact .req r k ih

theorem Prog.Tame.noCur {b : Nat} {p : Prog} (h : p.Tame false b) : p.NoCur := by
  induction h with
  | ret _ x => exact .ret x
  | raise _ e => exact .raise e
  | req _ r k hr _ _ ih => exact .req r k (hr rfl) ih

theorem Prog.Tame.callsLe {cur : Bool} {b : Nat} {p : Prog} (h : p.Tame cur b) : p.CallsLe b := by
  induction h with
  | ret b x => exact .ret b x
  | raise b e => exact .raise b e
  | req b r k _ hb _ ih => exact .req b r k hb ih

theorem Prog.Tame.mono {cur cur' : Bool} {b b' : Nat} {p : Prog} (h : p.Tame cur b) (hc : cur = true → cur' = true) (hle : b ≤ b') :
    p.Tame cur' b' := by
  induction h generalizing b' with
  | ret _ x => exact .ret _ x
  | raise _ e => exact .raise _ e
  | req _ r k hr hb _ ih =>
    refine .req _ r k (fun h => hr ?_) (by omega) (fun x => ih x (by omega))
    cases cur
    · rfl
    · rw [hc rfl] at h; cases h

theorem Prog.Tame.bind {cur : Bool} {b : Nat} {p : Prog} {f : Item → Prog} (hp : p.Tame cur b) (hf : ∀ x, (f x).Tame cur 0) :
    (p.bind f).Tame cur b := by
  induction hp with
  | ret _ x => exact (hf x).mono id (Nat.zero_le _)
  | raise _ e => exact .raise _ e
  | req _ r k hr hb _ ih => exact .req _ r _ hr hb ih

theorem Prog.NoCur.noEff {p : Prog} (h : p.NoCur) : p.NoEff := by
  induction h with
  | ret x => exact .ret x
  | raise e => exact .raise e
  | req r k _ _ ih => exact .req r k ih

theorem runEffs_noEff {p : Prog} (h : p.NoEff) (w : World) : runEffs p w = (p, w) := by
  cases h <;> rfl

theorem runEffs_callsLe {b : Nat} {p : Prog} (h : p.CallsLe b) : ∀ w, (runEffs p w).1.CallsLe b := by
  induction h with
  | ret b x => intro w; exact .ret b x
  | raise b e => intro w; exact .raise b e
  | req b r k h1 h2 _ => intro w; exact .req b r k h1 h2
  | eff b op k _ ih => intro w; simp only [runEffs]; exact ih _ _

theorem Prog.NoCur.req_inv {r : Req} {k : Item → Prog} (h : (Prog.req r k).NoCur) : r.noCur = true ∧ ∀ x, (k x).NoCur := by
  cases h with
  | req _ _ h1 h2 => exact ⟨h1, h2⟩

theorem noCurList_map (f : Nat → Req) (hf : ∀ i, (f i).noCur = true) (l : List Nat) : Req.noCurList (l.map f) = true := by
  induction l with
  | nil => rfl
  | cons a as ih => simp [Req.noCurList, hf, ih]

theorem noCurList_mem : ∀ (rs : List Req), Req.noCurList rs = true → ∀ r ∈ rs, r.noCur = true
  | [], _, r, hr => by cases hr
  | x :: xs, h, r, hr => by
    simp only [Req.noCurList, Bool.and_eq_true] at h
    cases hr with
    | head => exact h.1
    | tail _ hr => exact noCurList_mem xs h.2 r hr

theorem noCurList_of_mem : ∀ (rs : List Req), (∀ r ∈ rs, r.noCur = true) → Req.noCurList rs = true
  | [], _ => rfl
  | x :: xs, h => by
    simp only [Req.noCurList, Bool.and_eq_true]
    exact ⟨h x (List.mem_cons_self ..), noCurList_of_mem xs (fun r hr => h r (List.mem_cons_of_mem _ hr))⟩

theorem noCurList_reverse (rs : List Req) (h : Req.noCurList rs = true) : Req.noCurList rs.reverse = true :=
  noCurList_of_mem _ (fun r hr => noCurList_mem rs h r (List.mem_reverse.mp hr))

theorem ncallsList_map (f : Nat → Req) (hf : ∀ i, (f i).ncalls = 0) (l : List Nat) : Req.ncallsList (l.map f) = 0 := by
  induction l with
  | nil => rfl
  | cons a as ih => simp [Req.ncallsList, hf, ih]

theorem ncallsList_append : ∀ (xs ys : List Req), Req.ncallsList (xs ++ ys) = Req.ncallsList xs + Req.ncallsList ys
  | [], ys => by simp [Req.ncallsList]
  | x :: xs, ys => by simp [Req.ncallsList, ncallsList_append xs ys]; omega

theorem ncallsList_reverse : ∀ (xs : List Req), Req.ncallsList xs.reverse = Req.ncallsList xs
  | [] => rfl
  | x :: xs => by simp [Req.ncallsList, ncallsList_append, ncallsList_reverse xs]; omega

/-! ### the programs of the edge classes -/

/-- edges whose `evaluate` awaits the parents' values and computes: what `@hash_by_value` / `@impure` may wrap -/
def EdgeK.simple : EdgeK → Bool
  | .function _ _ _ | .identity | .constant _ | .product | .checkIds => true
  | _ => false

/-- no cache edge, and wrappers wrap simple edges (the repair of F5 makes the decorators guarantee this) -/
def EdgeK.wf : EdgeK → Bool
  | .cache _ => false
  | .byValue i | .impure i => i.simple
  | _ => true

/-- the edges the machine theorems cover: cache-free and well-formed, or a cache edge -/
abbrev EdgeK.WfOrCache (e : EdgeK) : Prop := e.wf = true ∨ ∃ s, e = .cache s

/-- calls of `evaluate`: one for a plain function -/
def EdgeK.evalCalls : EdgeK → Nat
  | .function _ _ _ => 1
  | _ => 0

/-- calls of `compute_hash`: those of the wrapped `evaluate` -/
def EdgeK.hashCalls : EdgeK → Nat
  | .byValue i | .impure i => i.evalCalls
  | _ => 0

theorem staticHash_tame {cur : Bool} {b : Nat} (a : Nat) (mk : List NHash → Prog) (h : ∀ hs, (mk hs).Tame cur b) :
    (staticHash a mk).Tame cur b := by
  have h0 : Req.ncalls (.await ((List.range a).map .parentHash)) = 0 := ncallsList_map _ (fun _ => rfl) _
  refine .req _ _ _ (fun _ => noCurList_map _ (fun _ => rfl) _) (by omega) fun x => ?_
  rw [h0]
  cases x with
  | tup xs => simp only; split <;> first | exact h _ | exact .raise _ _
  | _ => exact .raise _ _

theorem staticEval_tame {cur : Bool} {b : Nat} (a : Nat) (f : List Val → Prog) (h : ∀ vs, (f vs).Tame cur b) :
    (staticEval a f).Tame cur b := by
  have h0 : Req.ncalls (.await ((List.range a).map .parentValue)) = 0 := ncallsList_map _ (fun _ => rfl) _
  refine .req _ _ _ (fun _ => noCurList_map _ (fun _ => rfl) _) (by omega) fun x => ?_
  rw [h0]
  cases x with
  | tup xs => simp only; split <;> first | exact h _ | exact .raise _ _
  | _ => exact .raise _ _

/-- builds a `Tame` derivation for a program given by nested `match`es whose leaves are `ret`, `raise` and requests -/
macro "tame_auto" : tactic =>
  `(tactic| repeat (first | exact Prog.Tame.ret _ _ | exact Prog.Tame.raise _ _
                          | (refine Prog.Tame.req _ _ _ (by simp [Req.noCur, Req.noCurList]) (by simp [Req.ncalls, Req.ncallsList]) ?_; intro _)
                          | split))

theorem simple_eval_tame (e : EdgeK) (a : Nat) (h : e.simple = true) : (e.evalProg a).Tame false e.evalCalls := by
  cases e <;> simp [EdgeK.simple] at h
  · exact staticEval_tame _ _ fun vs => .req _ _ _ (fun _ => rfl) (Nat.le_refl 1) fun x => .ret _ x
  · exact staticEval_tame _ _ fun vs => .ret _ _
  · exact staticEval_tame _ _ fun vs => .ret _ _
  · exact staticEval_tame _ _ fun vs => .ret _ _
  · refine staticEval_tame _ _ fun vs => ?_
    tame_auto

/-- `evaluate` of a cache-free edge: the wrappers and switches ask for the payload of their own hash -/
theorem evalProg_tame (e : EdgeK) (a : Nat) (h : e.wf = true) : (e.evalProg a).Tame true e.evalCalls := by
  cases e with
  | cache s => simp [EdgeK.wf] at h
  | function | identity | constant | product | checkIds => exact (simple_eval_tame _ a rfl).mono nofun (Nat.le_refl _)
  | barrier | byValue | impure | switch | switchBranch | switchMissing => simp only [EdgeK.evalProg]; tame_auto

/-- `compute_hash` never asks for the node's own hash; a cache edge hashes like an identity -/
theorem hashProg_tame (e : EdgeK) (a : Nat) (h : e.WfOrCache) : (e.hashProg a).Tame false e.hashCalls := by
  cases e with
  | function | identity | constant | product | checkIds | cache => exact staticHash_tame _ _ fun _ => .ret _ _
  | barrier | switch | switchBranch | switchMissing => simp only [EdgeK.hashProg]; tame_auto
  | byValue i | impure i =>
    have hs : i.simple = true := by simpa [EdgeK.WfOrCache, EdgeK.wf] using h
    simp only [EdgeK.hashProg, EdgeK.hashCalls]
    refine (simple_eval_tame i a hs).bind fun x => ?_
    tame_auto

theorem evalProg_noEff (e : EdgeK) (a : Nat) (h : e.wf = true) : (e.evalProg a).NoEff := (evalProg_tame e a h).noEff

theorem hashProg_noEff (e : EdgeK) (a : Nat) (h : e.WfOrCache) : (e.hashProg a).NoEff :=
  (hashProg_tame e a h).noEff

theorem hashProg_noCur (e : EdgeK) (a : Nat) (h : e.WfOrCache) : (e.hashProg a).NoCur :=
  (hashProg_tame e a h).noCur

theorem hashProg_callsLe (e : EdgeK) (a : Nat) (h : e.WfOrCache) : (e.hashProg a).CallsLe e.hashCalls :=
  (hashProg_tame e a h).callsLe

theorem evalProg_callsLe (e : EdgeK) (a : Nat) (h : e.WfOrCache) : (e.evalProg a).CallsLe e.evalCalls := by
  rcases h with h | ⟨s, rfl⟩
  · exact (evalProg_tame e a h).callsLe
  · simp only [EdgeK.evalProg, EdgeK.evalCalls]
    refine .req _ _ _ (by simp [Req.ncalls]) fun x => ?_
    cases x with
    | hash h =>
      refine .eff _ _ _ fun r => ?_
      cases r with
      | some v => exact .ret _ _
      | none =>
        refine .req _ _ _ (by simp [Req.ncalls]) fun y => ?_
        cases y with
        | val v => exact .eff _ _ _ fun _ => .ret _ _
        | hash _ | hout _ _ | node _ | tup _ => exact .raise _ _
    | val _ | hout _ _ | node _ | tup _ => exact .raise _ _

/-- a node calls in one of its two generators only, and at most once -/
theorem EdgeK.calls_le_one (e : EdgeK) (h : e.WfOrCache) : e.hashCalls + e.evalCalls ≤ 1 := by
  rcases h with h | ⟨s, rfl⟩
  · cases e with
    | byValue i => cases i <;> simp [EdgeK.hashCalls, EdgeK.evalCalls]
    | impure i => cases i <;> simp [EdgeK.hashCalls, EdgeK.evalCalls]
    | _ => simp [EdgeK.hashCalls, EdgeK.evalCalls]
  · simp [EdgeK.hashCalls, EdgeK.evalCalls]

end CM
