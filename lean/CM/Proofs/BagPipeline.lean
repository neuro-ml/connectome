/-
  CM.Proofs.BagPipeline — from a bag to the value its compiled field returns on the stack machine.
-/
import CM.Proofs.DenLemmas
import CM.Proofs.Sound
import CM.Proofs.CountLemmas
import CM.Proofs.Correct
import CM.Proofs.CoreWF
import CM.Proofs.BagCompile
import CM.Proofs.BagCompileOK
import CM.Proofs.BagLink
namespace CM

section
variable {b : Bag} {o : BNode} {d : DenCfg}

theorem output_idx : (b.compileGraph o).output = b.idx o o := rfl

/-- the compiled field denotes what its term denotes, `missing` leaves included: value and node hash -/
theorem compiled_output (H : LinkHyp b o d) {t : BTerm} (hd : BDen b o t) :
    vden (b.compileGraph o) d = (t.den d).v ∧ hden (b.compileGraph o) d = (t.den d).h.map (·.1) := by
  have hinit : (b.compileGraph o).init (b.idx o o) ≠ 0 := by
    have := init_spec (b.compileGraph o) (topo_of_base _ H.base) (b.idx o o)
    rw [output_idx, if_pos rfl] at this
    omega
  have hlt : (b.compileGraph o).output < (b.compileGraph o).nodes.length := by
    rw [output_idx, nodes_length]
    exact idx_lt (mem_nodeList.2 (.inr (.inr (.inl rfl))))
  rw [vden_eq _ _ hlt, hden_eq _ _ hlt, output_idx]
  exact ⟨(link H hd hinit).2, (link H hd hinit).1⟩

theorem compiled_den (H : LinkHyp b o d) {t : BTerm} (hd : BDen b o t) (hnm : t.NoMissing) :
    vden (b.compileGraph o) d = (t.den d).v ∧ hden (b.compileGraph o) d = (t.den d).h.map (·.1) :=
  compiled_output H hd

end
/-- **From a bag to the value its compiled field returns.**  For an acyclic bag with single incoming edges whose inputs are
leaves and all of whose edges are of the kinds `vm_correct` covers (`EdgeK.wf`: no cache edge, wrappers around simple edges only), with every used input bound, no
scheduled failure and no impure function: calling the compiled graph on the stack machine stops and returns exactly the value
of the term the output node computes (`BDen`), evaluated by the specification `CM.Model.Denote` - or raises exactly the error
that evaluation gives (an internal error where a `missing` leaf is needed). -/
theorem pipeline_run {b : Bag} {o : BNode} {t : BTerm} (hs : SingleIncoming b.edges)
    (hleaf : ∀ n ∈ b.inputs, ∀ e ∈ b.edges, e.out ≠ n) (hac : acyclicB b.edges = true)
    (hwf : ∀ e ∈ b.edges, e.edge.wf = true) (env : String → Option Val) (w : World)
    (hc : CallOK (b.compileGraph o) env) (hf : w.failAt = []) (hp : w.impureFns = []) (hd : BDen b o t) :
    ∃ N out steps, (∀ fuel, N ≤ fuel → (b.compileGraph o).call env w fuel = some (out, steps)) ∧
      (∀ v, (t.den (denCfgOf env w)).v = .ok v → ∃ s, out = .done (.val v) s) ∧
      (∀ e, (t.den (denCfgOf env w)).v = .error e → ∃ s, out = .raised e s) := by
  have H : LinkHyp b o (denCfgOf env w) :=
    { single := hs, inLeaf := hleaf, peeled := peeled_of_acyclic hac, base := compile_base hleaf, pure := hp }
  obtain ⟨N, out, steps, hcall, hres⟩ := call_no_faults _ (compile_ok hleaf hwf) env w hc hf
  rw [(compiled_output H hd).1] at hres
  exact ⟨N, out, steps, hcall, fun v hv => by rwa [hv] at hres, fun e he => by rwa [he] at hres⟩

/-- **From a bag to the value its compiled field returns**, for a well-formed bag: `pipeline_run` (which needs neither the rest of
`Bag.WF` nor `hnm`), with value and error in one `match`. -/
theorem pipeline_value {b : Bag} {o : BNode} {t : BTerm} (hb : b.WF) (hac : acyclicB b.edges = true)
    (hwf : ∀ e ∈ b.edges, e.edge.wf = true) (env : String → Option Val) (w : World)
    (hc : CallOK (b.compileGraph o) env) (hf : w.failAt = []) (hp : w.impureFns = [])
    (hd : BDen b o t) (hnm : t.NoMissing) :
    ∃ N out steps, (∀ fuel, N ≤ fuel → (b.compileGraph o).call env w fuel = some (out, steps)) ∧
      match (t.den (denCfgOf env w)).v with
      | .ok v => ∃ s, out = .done (.val v) s
      | .error e => ∃ s, out = .raised e s := by
  obtain ⟨N, out, steps, hcall, hok, herr⟩ := pipeline_run hb.single hb.inLeaf hac hwf env w hc hf hp hd
  refine ⟨N, out, steps, hcall, ?_⟩
  cases hv : (t.den (denCfgOf env w)).v with
  | ok v => exact hok v hv
  | error e => exact herr e hv

end CM
