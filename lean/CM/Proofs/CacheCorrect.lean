/-
  CM.Proofs.CacheCorrect — graphs with cache edges at the level of `Graph.__call__`, in the forms the properties use:
  `cached_call` (the rely form: with faithful hashes and sound stores, what a call returns is the cache-free denotation,
  and the stores are sound afterwards whether the call returned or raised), `call_correct_c` (all parts together), and
  their consequences along every history of calls of members of the family — any inputs, rebuilt pipelines, variants
  sharing the storage, injected failures (`history_sound`, `history_values`, `history_full`).
-/
import CM.Proofs.Correct
namespace CM

theorem evalProg_cache_shape (s a : Nat) : ∃ k, (EdgeK.cache s).evalProg a = .req .currentHash k := ⟨_, rfl⟩

/-- what the caller of a cached `Graph.__call__` may rely on -/
def CachedSpec (F : Fam) (g : Graph) (d : DenCfg) : Outcome → Prop
  | .done x s => (∃ v, x = .val v ∧ vden g d = .ok v) ∧ StoreSound F s.mem.world
  | .raised _ s => StoreSound F s.mem.world
  | .next _ => False

/-- **Caches are transparent (rely form).**  For a member of a family with faithful hashes, started on sound
stores, the call stops; a returned value is the cache-free denotation; the stores are sound afterwards. -/
theorem cached_call (F : Fam) (g : Graph) (ok : GraphOKC g) (env : String → Option Val) (w : World) (hc : CallOK g env)
    (hF : F g (denCfgOf env w)) (hst : StoreSound F w) :
    ∃ N o steps, (∀ fuel, N ≤ fuel → g.call env w fuel = some (o, steps)) ∧ CachedSpec F g (denCfgOf env w) o := by
  obtain ⟨N, o, steps, hN, hv, hw, _⟩ := call_spec F g ok env w hc (fun _ => hF) hst
  refine ⟨N, o, steps, hN, ?_⟩
  cases o with
  | next _ => exact hv
  | done x s => exact ⟨hv, hw⟩
  | raised e s => exact hw

/-- what the caller of a cached `Graph.__call__` observes -/
def FullSpec (F : Fam) (g : Graph) (d : DenCfg) (faults : Bool) (o : Outcome) : Prop :=
  (match o with
   | .done x _ => ∃ v, x = .val v ∧ vden g d = .ok v
   | .raised e _ => (∃ fn, e = .user fn ∧ faults = true) ∨ vden g d = .error e
   | .next _ => False) ∧
  StoreSound F o.mem.world ∧ ∀ j, calls o.mem j ≤ 1

/-- **`vm_correct` with caches.**  (The call log is ghost state; the harness empties it before each call.) -/
theorem call_correct_c (F : Fam) (g : Graph) (ok : GraphOKC g) (env : String → Option Val) (w : World) (hc : CallOK g env)
    (hF : F g (denCfgOf env w)) (hst : StoreSound F w) (hlog : w.log = []) :
    ∃ N o steps, (∀ fuel, N ≤ fuel → g.call env w fuel = some (o, steps)) ∧
      FullSpec F g (denCfgOf env w) (!w.failAt.isEmpty) o := by
  obtain ⟨N, o, steps, hN, hv, hw, h1⟩ := call_spec F g ok env w hc (fun _ => hF) hst
  refine ⟨N, o, steps, hN, ?_, hw, h1 hlog⟩
  cases o <;> exact hv

/-! ### histories -/

/-- one call of a history: which pipeline (graph), which input, at which of its function invocations a user
function raises -/
structure CallSpec where
  g : Graph
  env : String → Option Val
  failAt : List Nat

/-- the world a call starts in (what the harness and the driver do between calls) -/
def prepare (w : World) (c : CallSpec) : World := { w with failAt := c.failAt.map (· + w.serial), log := [] }

/-- the world after a call: the call number advances (impure functions give new values) -/
def finish (o : Outcome) : World := { o.mem.world with callNo := o.mem.world.callNo + 1 }

/-- worlds reachable from sound stores by any history of calls of members of the family — any pipelines of the
family (rebuilds, variants), any inputs, any failure schedules — and of `clear`s -/
inductive Reach (F : Fam) : World → Prop
  | init (w : World) : StoreSound F w → Reach F w
  | clear (w : World) (s : Nat) : Reach F w → Reach F { w with stores := w.stores.modify s MemStore.clear }
  | call (w : World) (c : CallSpec) (fuel steps : Nat) (o : Outcome) : Reach F w → GraphOKC c.g → CallOK c.g c.env →
      F c.g (denCfgOf c.env (prepare w c)) → c.g.call c.env (prepare w c) fuel = some (o, steps) → Reach F (finish o)

theorem call_outcome (F : Fam) (w : World) (c : CallSpec) (fuel steps : Nat) (o : Outcome) (hst : StoreSound F w)
    (ok : GraphOKC c.g) (hc : CallOK c.g c.env) (hF : F c.g (denCfgOf c.env (prepare w c)))
    (hrun : c.g.call c.env (prepare w c) fuel = some (o, steps)) : CachedSpec F c.g (denCfgOf c.env (prepare w c)) o := by
  obtain ⟨N, o', steps', hN, hspec⟩ := cached_call F c.g ok c.env (prepare w c) hc hF hst
  cases call_unique hrun hN
  exact hspec

/-- **Sound stores along every history.** -/
theorem history_sound (F : Fam) (w : World) (h : Reach F w) : StoreSound F w := by
  induction h with
  | init w hs => exact hs
  | clear w s _ ih =>
    intro j st hj
    simp only [List.getElem?_modify] at hj
    cases hw : w.stores[j]? with
    | none => simp [hw] at hj
    | some st0 =>
      simp only [hw] at hj
      split at hj
      · simp only [Option.map_eq_map, Option.map_some, Option.some.injEq] at hj
        subst hj
        exact ⟨fun p hp => by simp [MemStore.clear] at hp, (ih j st0 hw).2⟩
      · simp only [Option.map_eq_map, Option.map_some, Option.some.injEq] at hj
        subst hj; exact ih j st0 hw
  | call w c fuel steps o _ ok hc hF hrun ih =>
    have hspec := call_outcome F w c fuel steps o ih ok hc hF hrun
    cases o with
    | next _ => exact absurd hspec (by simp [CachedSpec])
    | done x s => exact hspec.2
    | raised e s => exact hspec

/-- **Caches are transparent for every history** (given faithful hashes): after any history, whatever a call of a
member of the family returns is the value of its cache-free denotation. -/
theorem history_values (F : Fam) (w : World) (h : Reach F w) (c : CallSpec) (fuel steps : Nat) (x : Item) (s : St)
    (ok : GraphOKC c.g) (hc : CallOK c.g c.env) (hF : F c.g (denCfgOf c.env (prepare w c)))
    (hrun : c.g.call c.env (prepare w c) fuel = some (.done x s, steps)) :
    ∃ v, x = .val v ∧ vden c.g (denCfgOf c.env (prepare w c)) = .ok v :=
  (call_outcome F w c fuel steps _ (history_sound F w h) ok hc hF hrun).1

/-- **Along every history**: whatever fuel lets a call of a family member finish, its outcome meets the full
specification: value or exception of the cache-free denotation (or a scheduled user exception), sound stores, at most
one user call per node. -/
theorem history_full (F : Fam) (w : World) (h : Reach F w) (c : CallSpec) (fuel steps : Nat) (o : Outcome)
    (ok : GraphOKC c.g) (hc : CallOK c.g c.env) (hF : F c.g (denCfgOf c.env (prepare w c)))
    (hrun : c.g.call c.env (prepare w c) fuel = some (o, steps)) :
    FullSpec F c.g (denCfgOf c.env (prepare w c)) (!(prepare w c).failAt.isEmpty) o := by
  obtain ⟨N, o', steps', hN, hspec⟩ := call_correct_c F c.g ok c.env (prepare w c) hc hF (history_sound F w h) rfl
  cases call_unique hrun hN
  exact hspec

end CM
