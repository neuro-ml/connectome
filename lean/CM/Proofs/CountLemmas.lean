/-
  CM.Proofs.CountLemmas — arithmetic behind the eviction counters: finite sums over node indices, and the
  characterisation of `count_entries` (CM.Model.VM `countsFrom`) on topologically ordered graphs:

      counts n = [n = output]·mult + Σ_{c ≤ output, c live} occ(c, n) · counts c

  where `occ(c, n)` is how often `n` occurs among the parents of `c` and a node is live when it is not a declared
  input and has a non-zero count (only such nodes push their count to their parents).  At the end: the used inputs
  (`Graph.usedInputs`) are the declared inputs with a non-zero count.
-/
import CM.Model.VM
namespace CM

/-! ### finite sums -/

def sumTo : Nat → (Nat → Nat) → Nat
  | 0, _ => 0
  | n + 1, f => sumTo n f + f n

theorem sumTo_congr {f f' : Nat → Nat} : ∀ (N : Nat), (∀ c, c < N → f c = f' c) → sumTo N f = sumTo N f'
  | 0, _ => rfl
  | N + 1, h => by
    simp only [sumTo]
    rw [sumTo_congr N (fun c hc => h c (by omega)), h N (by omega)]

theorem sumTo_ge_term {f : Nat → Nat} : ∀ (N n : Nat), n < N → f n ≤ sumTo N f
  | 0, _, h => by omega
  | N + 1, n, h => by
    simp only [sumTo]
    by_cases hn : n = N
    · subst hn; omega
    · have := sumTo_ge_term (f := f) N n (by omega); omega

theorem sumTo_update {f f' : Nat → Nat} (n : Nat) (hne : ∀ c, c ≠ n → f' c = f c) :
    ∀ N, n < N → sumTo N f' + f n = sumTo N f + f' n
  | 0, h => by omega
  | N + 1, h => by
    simp only [sumTo]
    by_cases hn : n = N
    · subst hn
      rw [sumTo_congr (f := f') (f' := f) n (fun c hc => hne c (by omega))]
      omega
    · have := sumTo_update n hne N (by omega)
      rw [hne N (by omega)]
      omega

theorem sumTo_zero {f : Nat → Nat} : ∀ (N : Nat), (∀ c, c < N → f c = 0) → sumTo N f = 0
  | 0, _ => rfl
  | N + 1, h => by
    simp only [sumTo]
    rw [sumTo_zero N (fun c hc => h c (by omega)), h N (by omega)]

theorem sumTo_add (f f' : Nat → Nat) : ∀ N, sumTo N (fun c => f c + f' c) = sumTo N f + sumTo N f'
  | 0 => rfl
  | N + 1 => by simp only [sumTo]; rw [sumTo_add f f' N]; omega

theorem sumTo_le {f f' : Nat → Nat} : ∀ (N : Nat), (∀ c, c < N → f c ≤ f' c) → sumTo N f ≤ sumTo N f'
  | 0, _ => Nat.le_refl _
  | N + 1, h => by
    simp only [sumTo]
    have := sumTo_le N (fun c hc => h c (by omega))
    have := h N (by omega)
    omega

/-- extending the range by indices whose summand vanishes -/
theorem sumTo_extend {f : Nat → Nat} (N : Nat) : ∀ k, (∀ c, N ≤ c → c < N + k → f c = 0) → sumTo (N + k) f = sumTo N f
  | 0, _ => rfl
  | k + 1, h => by
    show sumTo (N + k) f + f (N + k) = sumTo N f
    rw [sumTo_extend N k (fun c h1 h2 => h c h1 (by omega)), h (N + k) (by omega) (by omega)]
    rfl

/-! ### `count_entries` -/

/-- how often `p` occurs among the parents of `c` -/
def occ (g : Graph) (c p : Nat) : Nat := (g.parents c).count p

theorem occ_pos_lt (g : Graph) (ht : g.Topo) (c p : Nat) (h : occ g c p ≠ 0) : p < c := by
  unfold occ at h
  exact ht c p (List.count_pos_iff.mp (Nat.pos_of_ne_zero h))

theorem occ_eq_zero_of_le (g : Graph) (ht : g.Topo) (c p : Nat) (h : c ≤ p) : occ g c p = 0 := by
  cases hz : occ g c p with
  | zero => rfl
  | succ k => have := occ_pos_lt g ht c p (by omega); omega

theorem foldl_push (amt : Nat) : ∀ (ps : List Nat) (c : Nat → Nat) (j : Nat),
    (ps.foldl (fun acc p => fun j => if j = p then acc j + amt else acc j) c) j = c j + ps.count j * amt
  | [], c, j => by simp
  | p :: ps, c, j => by
    simp only [List.foldl_cons]
    rw [foldl_push amt ps _ j, List.count_cons]
    by_cases hj : j = p
    · subst hj; simp [Nat.add_mul]; omega
    · have : (p == j) = false := by simp; omega
      simp [hj, this]

/-- one iteration of the loop of `count_entries`, at node `n` -/
def countStep (g : Graph) (n : Nat) (c : Nat → Nat) : Nat → Nat :=
  if g.inputs.contains n || c n = 0 then c
  else (g.parents n).foldl (fun acc p => fun j => if j = p then acc j + c n else acc j) c

theorem countsFrom_succ (g : Graph) (mult n : Nat) (c : Nat → Nat) :
    countsFrom g mult (n + 1) c = countsFrom g mult n (countStep g n c) := by
  simp only [countsFrom, countStep]

/-- whether node `n` pushes its count `x` to its parents -/
def pushes (g : Graph) (n x : Nat) : Bool := !g.inputs.contains n && x != 0

theorem countStep_apply (g : Graph) (n : Nat) (c : Nat → Nat) (j : Nat) :
    countStep g n c j = c j + (if pushes g n (c n) then occ g n j * c n else 0) := by
  unfold countStep pushes
  by_cases h1 : n ∈ g.inputs
  · simp [h1]
  · by_cases h2 : c n = 0
    · simp [h2]
    · simp [h1, h2, foldl_push, occ]

theorem countsFrom_ge (g : Graph) (mult : Nat) (ht : g.Topo) : ∀ (k : Nat) (c : Nat → Nat) (j : Nat), k ≤ j →
    countsFrom g mult k c j = c j
  | 0, c, j, _ => rfl
  | k + 1, c, j, h => by
    rw [countsFrom_succ, countsFrom_ge g mult ht k _ j (by omega), countStep_apply,
      occ_eq_zero_of_le g ht k j (by omega)]
    simp

/-- the loop invariant of `count_entries`, in closed form -/
theorem countsFrom_spec (g : Graph) (mult : Nat) (ht : g.Topo) : ∀ (k : Nat) (c : Nat → Nat) (j : Nat),
    countsFrom g mult k c j =
      c j + sumTo k (fun n => if pushes g n (countsFrom g mult k c n) then occ g n j * countsFrom g mult k c n else 0)
  | 0, c, j => by simp [countsFrom, sumTo]
  | k + 1, c, j => by
    have hk' : countStep g k c k = c k := by
      rw [countStep_apply, occ_eq_zero_of_le g ht k k (Nat.le_refl k)]; simp
    have hk : countsFrom g mult (k + 1) c k = c k := by
      rw [countsFrom_succ, countsFrom_ge g mult ht k _ k (Nat.le_refl k), hk']
    simp only [sumTo, hk]
    rw [countsFrom_succ, countsFrom_spec g mult ht k (countStep g k c) j, countStep_apply]
    omega

theorem countsFrom_dvd (g : Graph) (mult : Nat) : ∀ (k : Nat) (c : Nat → Nat), (∀ j, mult ∣ c j) →
    ∀ j, mult ∣ countsFrom g mult k c j
  | 0, c, h, j => h j
  | k + 1, c, h, j => by
    rw [countsFrom_succ]
    apply countsFrom_dvd g mult k
    intro j
    rw [countStep_apply]
    split
    · exact Nat.dvd_add (h j) (Nat.dvd_mul_left_of_dvd (h k) _)
    · simpa using h j

/-- `counts[n]` at the start of a call -/
def Graph.init (g : Graph) (n : Nat) : Nat := g.counts 2 n

/-- nodes that have generators to run and evict their parents: not a declared input, and reachable -/
def Graph.live (g : Graph) (n : Nat) : Bool := pushes g n (g.init n)

theorem init_spec (g : Graph) (ht : g.Topo) (j : Nat) :
    g.init j = (if j = g.output then 2 else 0) + sumTo (g.output + 1) (fun n => if g.live n then occ g n j * g.init n else 0) := by
  unfold Graph.init Graph.live Graph.counts
  exact countsFrom_spec g 2 ht (g.output + 1) _ j

theorem init_even (g : Graph) (j : Nat) : 2 ∣ g.init j := by
  unfold Graph.init Graph.counts
  apply countsFrom_dvd
  intro j
  split <;> simp

theorem init_zero_of_gt (g : Graph) (ht : g.Topo) (j : Nat) (h : g.output < j) : g.init j = 0 := by
  unfold Graph.init Graph.counts
  rw [countsFrom_ge g 2 ht (g.output + 1) _ j (by omega)]
  simp; omega

/-! ### which inputs are used -/

theorem mem_insertByName (g : Graph) (x y : Nat) : ∀ l : List Nat, y ∈ insertByName g x l ↔ y = x ∨ y ∈ l
  | [] => by simp [insertByName]
  | z :: zs => by
    simp only [insertByName]
    split
    · simp
    · simp only [List.mem_cons, mem_insertByName g x y zs]
      constructor
      · rintro (h | h | h) <;> simp [h]
      · rintro (h | h | h) <;> simp [h]

theorem mem_foldl_insert (g : Graph) (y : Nat) : ∀ (l acc : List Nat),
    y ∈ l.foldl (fun acc x => insertByName g x acc) acc ↔ y ∈ l ∨ y ∈ acc
  | [], acc => by simp
  | x :: l, acc => by
    simp only [List.foldl_cons, mem_foldl_insert g y l, mem_insertByName, List.mem_cons]
    constructor
    · rintro (h | h | h) <;> simp [h]
    · rintro ((h | h) | h) <;> simp [h]

theorem usedInputs_contains (g : Graph) (n : Nat) :
    g.usedInputs.contains n = (g.inputs.contains n && g.init n != 0) := by
  rw [Bool.eq_iff_iff]
  simp only [Graph.usedInputs, List.contains_iff_mem, mem_foldl_insert, List.mem_filter,
    List.mem_eraseDups, List.not_mem_nil, or_false, Bool.and_eq_true, Graph.init]

/-- a parent of a reachable inner node is reachable -/
theorem init_parent (g : Graph) (ht : g.Topo) (c p : Nat) (hc : g.init c ≠ 0) (hin : g.inputs.contains c = false)
    (hp : p ∈ g.parents c) : g.init p ≠ 0 := by
  have hco : c ≤ g.output := Nat.le_of_not_lt fun h => hc (init_zero_of_gt g ht c h)
  have hlive : g.live c = true := by
    simp only [Graph.live, pushes, hin, Bool.not_false, Bool.true_and, bne_iff_ne, ne_eq]
    exact hc
  have hocc : 1 ≤ occ g c p := List.count_pos_iff.2 hp
  have hge := sumTo_ge_term (f := fun n => if g.live n then occ g n p * g.init n else 0) (g.output + 1) c (by omega)
  simp only [hlive, if_true] at hge
  -- `init p` is a sum that contains the term `occ c p * init c` of the live child `c` (`hge`), and that term is at least `init c`
  have hspec := init_spec g ht p
  have : g.init c ≤ occ g c p * g.init c := Nat.le_mul_of_pos_left _ hocc
  omega

end CM
