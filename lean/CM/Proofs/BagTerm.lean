/-
  CM.Proofs.BagTerm — the term of a node as an executable function, sound for the relation BDen; `BTerm.NoMissing` as an executable
  check.
-/
import CM.Proofs.BagSem
import CM.Proofs.BagStruct
import CM.Proofs.OptMapM
namespace CM

/-- `e = .identity` as a `Bool`: `EdgeK` has no decidable equality -/
def EdgeK.isIdentity : EdgeK → Bool
  | .identity => true
  | _ => false

theorem isIdentity_iff (e : EdgeK) : e.isIdentity = true ↔ e = .identity := by
  cases e <;> simp [EdgeK.isIdentity]

/-- `mapM` for `Option`, spelled out (kernel-reducible) -/
def optMapM {α β : Type} (f : α → Option β) : List α → Option (List β)
  | [] => some []
  | x :: xs =>
    match f x, optMapM f xs with
    | some y, some ys => some (y :: ys)
    | _, _ => none

/-- the term a node computes, by unfolding the bag from the node down (`fuel` bounds the depth) -/
def Bag.term (b : Bag) : Nat → BNode → Option BTerm
  | 0, _ => none
  | fuel + 1, n =>
    if b.inputs.contains n then some (.inp n.name)
    else match incoming b.edges n with
      | none => some (.missing n.name)
      | some e =>
        if e.edge.isIdentity then
          match e.ins with
          | [p] => b.term fuel p
          | _ => none
        else (optMapM (b.term fuel) e.ins).map (.node e.edge)

theorem optMapM_eq {α β : Type} (f : α → Option β) : ∀ xs, optMapM f xs = optMapM' f xs
  | [] => rfl
  | x :: xs => by rw [optMapM, optMapM', optMapM_eq f xs]; rfl

theorem term_sound (b : Bag) : ∀ (fuel : Nat) (n : BNode) (t : BTerm), b.term fuel n = some t → BDen b n t
  | 0, _, _, h => nomatch h
  | fuel + 1, n, t, h => by
    rw [Bag.term] at h
    split at h
    next hin =>
      cases h
      exact .input (List.contains_iff_mem.1 hin)
    next hin =>
      have hni : n ∉ b.inputs := fun hi => hin (List.contains_iff_mem.2 hi)
      split at h
      next hnone =>
        cases h
        exact .missing hni (incoming_none hnone)
      next e hsome =>
        obtain ⟨he, ho⟩ := incoming_some hsome
        split at h
        next hid =>
          split at h
          next p hp => exact .ident e hni he ho ((isIdentity_iff _).1 hid) hp (term_sound b fuel p t h)
          next => cases h
        next hid =>
          obtain ⟨ts, hl, rfl⟩ := Option.map_eq_some_iff.1 h
          rw [optMapM_eq] at hl
          exact .edge e hni he ho (fun hk => hid ((isIdentity_iff _).2 hk)) (optMapM'_length hl)
            fun p hp => term_sound b fuel p.1 p.2 (optMapM'_rel hl hp)

mutual
  /-- executable form of `BTerm.NoMissing` -/
  def BTerm.noMissingB : BTerm → Bool
    | .inp _ => true
    | .missing _ => false
    | .node _ args => BTerm.noMissingLB args
  def BTerm.noMissingLB : List BTerm → Bool
    | [] => true
    | t :: ts => t.noMissingB && BTerm.noMissingLB ts
end

mutual
  theorem noMissingB_sound : ∀ (t : BTerm), t.noMissingB = true → t.NoMissing
    | .inp _, _ => trivial
    | .missing _, h => by simp [BTerm.noMissingB] at h
    | .node _ args, h => by
      simp only [BTerm.noMissingB] at h
      simp only [BTerm.NoMissing]
      exact noMissingLB_sound args h
  theorem noMissingLB_sound : ∀ (ts : List BTerm), BTerm.noMissingLB ts = true → BTerm.NoMissingL ts
    | [], _ => trivial
    | t :: ts, h => by
      simp only [BTerm.noMissingLB, Bool.and_eq_true] at h
      exact ⟨noMissingB_sound t h.1, noMissingLB_sound ts h.2⟩
end

end CM
