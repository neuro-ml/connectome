/-
  CM.Proofs.StackLemmas — the layer stack (`Model/Stack`): association lists read by `lookupAssoc`; `Sig.step` read backwards, for a
  cache layer and for any other; what a layer defines and inherits; `Sig.quiet`.
-/
import CM.Model.Stack
import CM.Proofs.NameSetLaws
namespace CM

theorem lookupAssoc_append {α : Type} (xs ys : List (String × α)) (k : String) :
    lookupAssoc (xs ++ ys) k = (lookupAssoc xs k).orElse fun _ => lookupAssoc ys k := by
  simp only [lookupAssoc, List.find?_append]
  cases h : List.find? (fun p => p.1 == k) xs <;> simp

theorem lookupAssoc_eq_none_iff {α : Type} {xs : List (String × α)} {k : String} :
    lookupAssoc xs k = none ↔ k ∉ xs.map (·.1) := by
  simp only [lookupAssoc, Option.map_eq_none_iff, List.find?_eq_none, beq_iff_eq, List.mem_map, not_exists, not_and]

theorem lookupAssoc_some_mem {α : Type} (xs : List (String × α)) (k : String) (v : α)
    (h : lookupAssoc xs k = some v) : (k, v) ∈ xs := by
  simp only [lookupAssoc, Option.map_eq_some_iff] at h
  obtain ⟨p, hp, rfl⟩ := h
  obtain rfl : p.1 = k := by simpa using List.find?_some hp
  exact List.mem_of_find?_eq_some hp

theorem lookupAssoc_cons {α : Type} (q : String × α) (xs : List (String × α)) (k : String) :
    lookupAssoc (q :: xs) k = if q.1 == k then some q.2 else lookupAssoc xs k := by
  unfold lookupAssoc
  rw [List.find?_cons]
  cases q.1 == k <;> rfl

theorem lookupAssoc_filter {α : Type} {p : String × α → Bool} {k : String} {xs : List (String × α)}
    (h : ∀ q ∈ xs, q.1 = k → p q = true) : lookupAssoc (xs.filter p) k = lookupAssoc xs k := by
  induction xs with
  | nil => rfl
  | cons q xs ih =>
    have ih := ih fun q' hq' => h q' (List.mem_cons_of_mem _ hq')
    by_cases hp : p q = true
    · rw [List.filter_cons_of_pos hp, lookupAssoc_cons, lookupAssoc_cons, ih]
    · rw [List.filter_cons_of_neg hp, lookupAssoc_cons, if_neg fun hk => hp (h q List.mem_cons_self (eq_of_beq hk)), ih]

theorem mapM_keys {α β : Type} {f : String × α → Option (String × β)} (hf : ∀ p y, f p = some y → y.1 = p.1)
    {xs : List (String × α)} {ys : List (String × β)} (h : xs.mapM f = some ys) : ys.map (·.1) = xs.map (·.1) := by
  induction xs generalizing ys with
  | nil => cases h; rfl
  | cons x xs ih =>
    simp only [List.mapM_cons, bind, Option.bind_eq_some_iff, pure, Option.some.injEq] at h
    obtain ⟨y, hy, r, hr, rfl⟩ := h
    simp only [List.map_cons, hf x y hy, ih hr]

theorem Layer.defines_eq_false {l : Layer} {n : String} : l.defines n = false ↔ n ∉ l.defs.map (·.1) := by
  rw [Layer.defines, Option.isSome_eq_false_iff, Option.isNone_iff_eq_none, lookupAssoc_eq_none_iff]

theorem definedEntries_names {s : Sig} {l : Layer} {defined : List (String × Entry × Bool)}
    (h : s.definedEntries l = some defined) : defined.map (·.1) = l.defs.map (·.1) := by
  refine mapM_keys (fun p y hy => ?_) h
  obtain ⟨n, d⟩ := p
  cases d with
  | const v => cases hy; rfl
  | identity a | fn f args => obtain ⟨e, _, rfl⟩ := Option.map_eq_some_iff.1 hy; rfl

theorem step_cache {s s' : Sig} {l : Layer} (hk : l.kind = .cache) (h : s.step l = .ok s') :
    s' = { s with out := s.out.map fun (n, e, o) =>
      (n, e, if (match l.cacheNames with | none => true | some ns => ns.contains n) then true else o) } := by
  unfold Sig.step at h
  simp only [hk] at h
  exact (Except.ok.inj h).symm

theorem cache_step_field {s s' : Sig} {l : Layer} (hk : l.kind = .cache) (h : s.step l = .ok s') (n : String) :
    s'.field n = s.field n := by
  rw [step_cache hk h]
  simp only [Sig.field, Sig.get, lookupAssoc, List.find?_map, Function.comp_def]
  cases hf : List.find? (fun p => p.1 == n) s.out with
  | none => simp
  | some p => obtain ⟨m, e, o⟩ := p; cases e <;> simp

theorem step_noncache {s s' : Sig} {l : Layer} (hk : l.kind ≠ .cache) (h : s.step l = .ok s') :
    ∃ defined, s.definedEntries l = some defined ∧
      s'.out = defined ++ s.inheritedEntries l ++ (s.freshNames l).map (fun n => (n, s.lookup l n, false)) ∧
      s'.virt = (s.virt.inter l.inheritSet).diff (.fin (s'.out.map (·.1))) := by
  unfold Sig.step at h
  split at h
  · next hc => exact absurd hc hk
  · split at h
    · simp at h
    · cases hd : s.definedEntries l with
      | none => simp [hd] at h
      | some defined =>
        simp only [hd] at h
        injection h with h
        subst h
        exact ⟨defined, rfl, rfl, rfl⟩

theorem mem_inheritedEntries_names {s : Sig} {l : Layer} {n : String}
    (h : n ∈ (s.inheritedEntries l).map (·.1)) : l.defines n = false ∧ s.passes l n = true := by
  simp only [Sig.inheritedEntries, List.mem_map, List.mem_filterMap] at h
  obtain ⟨_, ⟨⟨m, e, o⟩, _, hm⟩, rfl⟩ := h
  split at hm
  · next hc =>
    have hc : l.defines m = false ∧ s.passes l m = true := by simpa using hc
    split at hm <;> cases hm <;> exact hc
  · cases hm

/-- `inheritSet`, which filters `virt`, agrees with `inherits`, which filters `out`, on a name the layer does not define -/
theorem inheritSet_mem_false {l : Layer} {n : String} (hk : l.kind ≠ .cache) (hd : l.defines n = false)
    (hi : l.inherits n = false) : l.inheritSet.mem n = false := by
  unfold Layer.inherits at hi
  unfold Layer.inheritSet
  cases hkind : l.kind with
  | cache => exact absurd hkind hk
  | source => exact NameSet.mem_empty n
  | apply => simp [hkind, hd] at hi
  | transform =>
    simp only [hkind] at hi ⊢
    split at hi
    · exact hi
    · simpa [hd] using hi

theorem not_quiet_iff (s : Sig) (e : Entry) (o : Bool) : (!s.quiet e o) = true ↔
    ∃ ms, e = .broken ms ∧ (o = false ∨ ∃ m ∈ ms, ((s.leafOpt.find? fun p => p.1 == m).map (·.2)).getD false = false) := by
  cases e with
  | term t => exact ⟨fun h => (nomatch h), fun ⟨_, h, _⟩ => (nomatch h)⟩
  | broken ms =>
    simp only [Sig.quiet, Bool.not_eq_true', Bool.and_eq_false_iff, List.all_eq_false, Bool.not_eq_true, Entry.broken.injEq,
      exists_eq_left']

end CM
