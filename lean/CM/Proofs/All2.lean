/-
  CM.Proofs.All2 — two lists related position by position.
-/
import CM.Proofs.Basics
namespace CM

/-- Mathlib's `List.Forall₂` (the project is core Lean only); `all2_iff_getElem?` is the reading by positions -/
inductive All2 {α β : Type} (R : α → β → Prop) : List α → List β → Prop
  | nil : All2 R [] []
  | cons {a : α} {b : β} {as : List α} {bs : List β} : R a b → All2 R as bs → All2 R (a :: as) (b :: bs)

theorem All2.imp {α β : Type} {R S : α → β → Prop} (h : ∀ a b, R a b → S a b) {l₁ : List α} {l₂ : List β}
    (hall : All2 R l₁ l₂) : All2 S l₁ l₂ := by
  induction hall with
  | nil => exact .nil
  | cons hr _ ih => exact .cons (h _ _ hr) ih

theorem forall₂_map_right {α β γ : Type} {R : α → γ → Prop} (f : β → γ) : ∀ {l₁ : List α} {l₂ : List β},
    All2 (fun a b => R a (f b)) l₁ l₂ → All2 R l₁ (l₂.map f) := by
  intro l₁ l₂ h
  induction h with
  | nil => exact .nil
  | cons hr _ ih => exact .cons hr ih

theorem all2_map_left {α β γ : Type} {R : β → γ → Prop} (f : α → β) : ∀ {l : List α} {r : List γ},
    All2 R (l.map f) r → All2 (fun a c => R (f a) c) l r
  | [], _, h => by cases h; exact .nil
  | a :: l, _, h => by
    cases h with
    | cons hr hall => exact .cons hr (all2_map_left f hall)

theorem all2_iff_getElem? {α β : Type} {R : α → β → Prop} {l : List α} {r : List β} :
    All2 R l r ↔ l.length = r.length ∧ ∀ (i : Nat) a b, l[i]? = some a → r[i]? = some b → R a b := by
  constructor
  · intro h
    induction h with
    | nil => exact ⟨rfl, nofun⟩
    | cons hr _ ih =>
      refine ⟨congrArg (· + 1) ih.1, fun i a b ha hb => ?_⟩
      cases i with
      | zero => cases ha; cases hb; exact hr
      | succ i => exact ih.2 i a b ha hb
  · intro ⟨hl, hget⟩
    induction l generalizing r with
    | nil => cases r with
      | nil => exact .nil
      | cons _ _ => cases hl
    | cons a l ih => cases r with
      | nil => cases hl
      | cons b r => exact .cons (hget 0 a b rfl rfl) (ih (Nat.succ.inj hl) fun i => hget (i + 1))

theorem all2_range {β : Type} {R : Nat → β → Prop} {a : Nat} {r : List β} :
    All2 R (List.range a) r ↔ r.length = a ∧ ∀ (i : Nat) b, r[i]? = some b → R i b := by
  rw [all2_iff_getElem?, List.length_range]
  constructor
  · rintro ⟨hl, hget⟩
    refine ⟨hl.symm, fun i b hb => hget i i b ?_ hb⟩
    rw [List.getElem?_range (hl ▸ (List.getElem?_eq_some_iff.mp hb).1)]
  · rintro ⟨hl, hget⟩
    refine ⟨hl.symm, fun i j b hj hb => ?_⟩
    obtain ⟨_, rfl⟩ := List.getElem?_eq_some_iff.mp hj
    rw [List.getElem_range]
    exact hget i b hb

theorem all2_of_mapM_ok {ε α β : Type} {f : α → Except ε β} {l : List α} {r : List β} (h : l.mapM f = .ok r) :
    All2 (fun a b => f a = .ok b) l r := by
  induction l generalizing r with
  | nil => cases h; exact .nil
  | cons a l ih =>
    rw [List.mapM_cons] at h
    obtain ⟨b, ha, h⟩ := bind_eq_ok.1 h
    obtain ⟨bs, hl, h⟩ := bind_eq_ok.1 h
    cases h
    exact .cons ha (ih hl)

end CM
