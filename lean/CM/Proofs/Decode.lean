/-
  CM.Proofs.Decode — a node hash determines the value (C05): `decode h` is the computation the hash `h` stands for,
  and on plain graphs (`Plain`) the value of every node whose hash is `h` is `decode h`.  The step of the induction,
  `EdgeK.den_value_of_hash`, is about an edge over the denotations of its arguments.
-/
import CM.Proofs.Basics
import CM.Proofs.All2
import CM.Proofs.InterpLemmas
import CM.Proofs.ProgLemmas
import CM.Proofs.DenLemmas
import CM.Proofs.Sound
import CM.Proofs.CacheSound
import CM.Proofs.EdgeSem
import CM.Proofs.BeqSound
namespace CM

mutual
  /-- the value a node hash stands for on a plain graph.  `.graph` and `.custom` get a dummy: no node has such a hash (`compute_hash` of a
  switch edge returns the hash of the branch taken; `.custom` is its static `_hash_graph` only, `.graph` the hash of a whole graph) -/
  def decode : NHash → Val
    | .leaf v => v
    | .apply f hs kwn =>
      if f = "tuple" ∧ kwn = [] then .tup (decodeList hs)
      else .app f ((decodeList hs).take (hs.length - kwn.length)) kwn ((decodeList hs).drop (hs.length - kwn.length))
    | .graph _ => .none
    | .custom _ _ => .none
  def decodeList : List NHash → List Val
    | [] => []
    | h :: hs => decode h :: decodeList hs
end

theorem decodeList_eq_map : ∀ hs : List NHash, decodeList hs = hs.map decode
  | [] => rfl
  | h :: hs => by simp [decodeList, decodeList_eq_map hs]

/-- the edge classes a `Plain` graph may hold: function edges without Silent arguments whose function is not called "tuple"; every
other unwrapped class except `CheckIds`; `@hash_by_value` / `@impure` around any simple edge (`EdgeK.simple`), also around one
that is not plain itself (Silent arguments, `CheckIds`), and around nothing else -/
def EdgeK.plain : EdgeK → Bool
  | .function f _ silent => silent.isEmpty && f != "tuple"
  | .identity | .constant _ | .product | .cache _ | .barrier | .switch _ | .switchBranch | .switchMissing _ => true
  | .byValue i | .impure i => i.simple
  | .checkIds => false

/-- plain graphs: no Silent arguments, no CheckIds, no user function called "tuple"; pass-through edges have a parent;
the functions of plain function edges are neither constants nor impure in the configuration -/
structure Plain (g : Graph) (d : DenCfg) : Prop extends GraphBase g where
  plain : ∀ (n : Nat) (nd : Node) (e : EdgeK), g.nodes[n]? = some nd → nd.edge = some e → e.plain = true
  arity : ∀ (n : Nat) (nd : Node) (e : EdgeK), g.nodes[n]? = some nd → nd.edge = some e → e.passThrough = true → 1 ≤ nd.parents.length
  pure : ∀ (n : Nat) (nd : Node) (f : String) (kwn : List String) (sil : List Nat), g.nodes[n]? = some nd →
    nd.edge = some (.function f kwn sil) → ∀ pos kwv, d.call n f pos kwn kwv = .app f pos kwn kwv

theorem plain_wfc (e : EdgeK) (h : e.plain = true) : e.WfOrCache := by
  cases e with
  | cache s => exact .inr ⟨s, rfl⟩
  | checkIds => cases h
  | byValue i | impure i => exact .inl h
  | _ => exact .inl rfl

/-- `compute_hash` of a plain edge does not ask for its own result: what it returns without a current hash it returns under
any, in particular under the handlers of `evaluate` -/
theorem hashProg_plain {e : EdgeK} (hplain : e.plain = true) {call : String → List Val → List String → List Val → Val}
    {ds : List Den} {a : Nat} {h : NHash} {p : Val}
    (hh : (interp (argCtx call ds (.error .internal)) (e.hashProg a)).bind Item.asHout = .ok (h, p))
    (cur : Except Err (NHash × Val)) : interp (argCtx call ds cur) (e.hashProg a) = .ok (.hout h p) := by
  rw [← bind_asHout_ok hh]
  exact interp_noCur (argCtx call ds (.error .internal)) _ _ (hashProg_noCur e _ (plain_wfc e hplain))

theorem silence_nil (hs : List NHash) : silence [] hs = hs := by
  simp [silence, List.zipIdx_map_fst]

theorem decode_hashGraph (e : EdgeK) (hs : e.simple = true) (hp : e.plain = true) (l : List NHash) (h : NHash)
    (hg : e.hashGraph l = .ok h) : e.evalStatic .app (l.map decode) = decode h := by
  cases e with
  | function f kwn sil =>
    simp only [EdgeK.plain, Bool.and_eq_true, List.isEmpty_iff, bne_iff_ne, ne_eq] at hp
    obtain ⟨rfl, hft⟩ := hp
    cases hg
    simp only [EdgeK.evalStatic, silence_nil, decode, hft, false_and, ↓reduceIte, decodeList_eq_map, List.length_map]
  | identity => cases hg; cases l <;> rfl
  | constant v => cases hg; rfl
  | product => cases hg; simp only [EdgeK.evalStatic, decode, and_self, ↓reduceIte, decodeList_eq_map]
  | checkIds => cases hp
  | _ => cases hs

theorem EdgeK.den_value_of_hash (e : EdgeK) (call : String → List Val → List String → List Val → Val) (ds : List Den)
    (hplain : e.plain = true) (harity : ∀ s, e = .cache s → 1 ≤ ds.length)
    (hpure : ∀ f kwn sil, e = .function f kwn sil → ∀ pos kwv, call f pos kwn kwv = .app f pos kwn kwv)
    (hds : ∀ x ∈ ds, ∀ h p, x.h = .ok (h, p) → x.v = .ok (decode h)) (h : NHash) (p : Val)
    (hh : (e.den call ds).h = .ok (h, p)) : (e.den call ds).v = .ok (decode h) := by
  -- `c`: the handlers of `evaluate`
  obtain ⟨c, hc⟩ : ∃ c, c = argCtx call ds (.ok (h, p)) := ⟨_, rfl⟩
  have hx : interp c (e.hashProg ds.length) = .ok (.hout h p) := hc ▸ hashProg_plain hplain hh _
  have hcur : c.cur = .ok (h, p) := by rw [hc]; rfl
  have hpar : ∀ i h', c.ph i = .ok h' → c.pv i = .ok (decode h') := by
    intro i h' hph
    simp only [hc, argCtx] at hph ⊢
    cases hq : ds[i]? with
    | none => rw [hq] at hph; cases hph
    | some x =>
      rw [hq] at hph
      obtain ⟨y, hy, rfl⟩ := map_eq_ok hph
      exact hds x (List.mem_of_getElem? hq) _ y.2 hy
  suffices interp c (e.evalProg ds.length) = .ok (.val (decode h)) by
    simp only [EdgeK.den] at hh ⊢
    rw [hh, ← hc, this]; rfl
  by_cases hs : e.simple = true
  · -- the parents' hashes `l` give the parents' values `l.map decode`, and `decode` commutes with the edge
    obtain ⟨l, hall, hg⟩ := hashProg_static (.inl hs) hx
    rw [(evalProg_simple hs (by rintro rfl; cases hplain)).2 ⟨_, forall₂_map_right decode (hall.imp hpar), rfl⟩,
      evalStatic_pure (by rw [hc]; exact hpure), decode_hashGraph e hs hplain l h hg]
  · cases e with
    | cache s =>
      obtain ⟨l, hall, hg⟩ := hashProg_static (.inr ⟨s, rfl⟩) hx
      obtain ⟨hl, hget⟩ := all2_range.1 hall
      cases l with
      | nil => have := harity s rfl; simp at hl; omega
      | cons b _ => cases hg; rw [sem_cache s hcur, hpar 0 b (hget 0 b rfl)]; rfl
    | barrier =>
      obtain ⟨_, rfl, hev⟩ := sem_barrier hx hcur
      exact hev
    | byValue i | impure i =>
      obtain ⟨_, rfl, hev⟩ := sem_byValue hx hcur
      exact hev
    | switch t =>
      obtain ⟨key, idx, _, _, hph, hev⟩ := sem_switch hx hcur
      rw [hev, hpar _ _ hph]; rfl
    | switchBranch =>
      obtain ⟨key, inner, left, right, i, _, _, _, hph, hev⟩ := sem_switchBranch hx hcur
      rw [hev, hpar _ _ hph]; rfl
    | switchMissing idx =>
      obtain ⟨key, inner, left, right, _, _, ⟨_, hph, hev⟩ | ⟨_, _, rfl, hev⟩⟩ := sem_switchMissing hx hcur
      · rw [hev, hpar _ _ hph]; rfl
      · exact hev
    | _ => exact absurd rfl hs

/-- **A node hash determines the value** (C05): on a plain graph, a node whose hash is `h` has the value `decode h`. -/
theorem den_value_of_hash (g : Graph) (d : DenCfg) (pl : Plain g d) : ∀ (n : Nat) (h : NHash) (p : Val),
    (den g d n).h = .ok (h, p) → (den g d n).v = .ok (decode h) := by
  intro n
  induction n using Nat.strongRecOn with
  | _ n ih =>
    intro h p hh
    obtain hd | ⟨hn, ⟨_, v, _, hd⟩ | ⟨_, e, he⟩⟩ := den_cases g d n
    · rw [hd] at hh; cases hh
    · rw [hd] at hh ⊢; cases hh; rfl
    · rw [den_edge d pl.toGraphBase he] at hh ⊢
      refine e.den_value_of_hash _ _ (pl.plain n _ e hn he) (fun s hs => ?_) (fun f kwn sil hf => pl.pure n _ f kwn sil hn (hf ▸ he))
        (fun x hx => ?_) h p hh
      · rw [List.length_map]; exact pl.arity n _ e hn he (hs ▸ rfl)
      · obtain ⟨q, hq, rfl⟩ := List.mem_map.1 hx
        exact ih q (pl.topo n _ hn q hq)

/-- **Equal node hash, equal value** — across nodes, inputs and pipelines. -/
theorem equal_hash_equal_value (g : Graph) (d : DenCfg) (pl : Plain g d) (g' : Graph) (d' : DenCfg) (pl' : Plain g' d')
    (n n' : Nat) (h : NHash) (p p' : Val) (h1 : (den g d n).h = .ok (h, p)) (h2 : (den g' d' n').h = .ok (h, p')) :
    (den g d n).v = (den g' d' n').v := by
  rw [den_value_of_hash g d pl n h p h1, den_value_of_hash g' d' pl' n' h p' h2]

/-- C05 discharges the hypothesis of the cache theorem for stores with structural key equality (disk) -/
theorem faithful_exact (F : Fam) (hF : ∀ g d, F g d → Plain g d) : Faithful F true := by
  intro k g d n h pl v g' d' n' h' pl' hg hg' hh hh' hk hk' hv
  -- `keyEqB true` is `==` on node hashes
  cases NHash.eq_of_beq k h hk
  cases NHash.eq_of_beq k h' hk'
  rw [den_value_of_hash g' d' (hF g' d' hg') n' _ pl' hh', ← den_value_of_hash g d (hF g d hg) n _ pl hh, hv]

end CM
