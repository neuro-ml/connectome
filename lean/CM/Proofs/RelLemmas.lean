/-
  CM.Proofs.RelLemmas — lemmas about `Model/Rel`.  For all dataset layers (`Props/C14`, `C16`, `C17`): tables keyed by their first
  component (`any_fst_beq`), sorted id lists (`insertSorted`, `sortDedup`).  For Merge (`Props/C14`): its routing table
  `id_to_dataset` (`ownerOf`, `ownerTable`) and `idsOf`.
-/
import CM.Model.Rel
import CM.Proofs.Basics
namespace CM

theorem any_fst_beq {β : Type} {m : List (String × β)} {k : String} :
    m.any (·.1 == k) = true ↔ k ∈ m.map (·.1) := by
  simp only [List.any_eq_true, List.mem_map, beq_iff_eq]

theorem ownerOf_append (a b : List (String × Nat)) (i : String) :
    ownerOf (a ++ b) i = (ownerOf a i).orElse fun _ => ownerOf b i := by
  simp only [ownerOf, List.find?_append]
  cases List.find? (fun x => x.1 == i) a <;> rfl

theorem ownerOf_map (ids : List String) (k : Nat) (i : String) :
    ownerOf (ids.map fun j => (j, k)) i = if i ∈ ids then some k else none := by
  induction ids with
  | nil => rfl
  | cons x xs ih =>
    simp only [ownerOf, List.map_cons, List.find?_cons, List.mem_cons]
    by_cases hx : x = i
    · simp [hx]
    · have hne : (x == i) = false := by simpa using hx
      simpa only [hne, Ne.symm hx, false_or, ownerOf] using ih

/-- the guard of `ownerTable`: some new id has an owner already -/
theorem owned_any (acc : List (String × Nat)) (ids : List String) :
    (ids.any fun i => acc.any fun (j, _) => j == i) = true ↔ ∃ i ∈ ids, (ownerOf acc i).isSome := by
  simp only [List.any_eq_true, ownerOf, Option.isSome_map, List.find?_isSome]

/-- What `ownerTable` (the loop building `id_to_dataset`) guarantees when it does not raise. -/
theorem ownerTable_spec : ∀ (lists : List (List String)) (idx : Nat) (acc t : List (String × Nat)),
    ownerTable lists idx acc = .ok t →
    (∀ i n, ownerOf acc i = some n → ownerOf t i = some n) ∧
    (∀ k ids i, lists[k]? = some ids → i ∈ ids → ownerOf acc i = none ∧ ownerOf t i = some (idx + k)) ∧
    (∀ i, ownerOf acc i = none → (∀ ids ∈ lists, i ∉ ids) → ownerOf t i = none) := by
  intro lists
  induction lists with
  | nil =>
    intro idx acc t h
    cases h
    exact ⟨fun _ _ h => h, fun k _ _ hk => by simp at hk, fun _ h _ => h⟩
  | cons ids rest ih =>
    intro idx acc t h
    obtain ⟨hany, h⟩ := of_guard_ok h
    obtain ⟨ih1, ih2, ih3⟩ := ih (idx + 1) _ t h
    -- the table handed on: ids owned before keep their owner, the ids of this dataset get `idx`
    have hacc : ∀ i, ownerOf (acc ++ ids.map fun i => (i, idx)) i =
        (ownerOf acc i).orElse fun _ => if i ∈ ids then some idx else none := by
      intro i; rw [ownerOf_append, ownerOf_map]
    have hfresh : ∀ i ∈ ids, ownerOf acc i = none := fun i hi =>
      Option.not_isSome_iff_eq_none.mp fun hs => hany ((owned_any acc ids).mpr ⟨i, hi, hs⟩)
    refine ⟨fun i n hi => ih1 i n (by rw [hacc, hi]; rfl), ?_, ?_⟩
    · intro k ids' i hk hi
      cases k with
      | zero =>
        cases hk
        exact ⟨hfresh i hi, ih1 i idx (by rw [hacc, hfresh i hi, if_pos hi]; rfl)⟩
      | succ k =>
        obtain ⟨h1, h2⟩ := ih2 k ids' i hk hi
        rw [hacc] at h1
        cases ha : ownerOf acc i with
        | some n => rw [ha] at h1; cases h1
        | none => exact ⟨rfl, by rw [h2]; congr 1; omega⟩
    · intro i hi hall
      refine ih3 i ?_ fun ids' hm => hall ids' (List.mem_cons_of_mem _ hm)
      rw [hacc, hi, if_neg (hall ids (List.mem_cons_self ..))]; rfl

/-- the loop raises as soon as a dataset repeats an id of an earlier one -/
theorem ownerTable_overlap (ids : List String) (rest : List (List String)) (idx : Nat) (acc : List (String × Nat))
    (i : String) (hi : i ∈ ids) (n : Nat) (ha : ownerOf acc i = some n) :
    ownerTable (ids :: rest) idx acc = .error .runtimeError := by
  rw [ownerTable, if_pos ((owned_any acc ids).mpr ⟨i, hi, by rw [ha]; rfl⟩)]

/-- `idsOf` is `mapM DS.ids` -/
theorem idsOf_ok (parts : List DS) (idLists : List (List String)) (h : idsOf parts = .ok idLists) :
    parts.map (·.ids) = idLists.map .ok := by
  induction parts generalizing idLists with
  | nil => cases h; rfl
  | cons q qs ih =>
    unfold idsOf at h
    split at h
    · cases h
    · next ids hq =>
      split at h
      · cases h
      · next rest hr => cases h; simp [hq, ih rest hr]

theorem idsOf_get (parts : List DS) (idLists : List (List String)) (h : idsOf parts = .ok idLists)
    (k : Nat) (p : DS) (hk : parts[k]? = some p) : ∃ ids, p.ids = .ok ids ∧ idLists[k]? = some ids := by
  have := congrArg (·[k]?) (idsOf_ok parts idLists h)
  simp only [List.getElem?_map, hk, Option.map_some] at this
  cases hi : idLists[k]? with
  | none => simp [hi] at this
  | some ids => exact ⟨ids, by simpa [hi] using this, rfl⟩

theorem mem_insertSorted (x y : String) (l : List String) : y ∈ insertSorted x l ↔ y = x ∨ y ∈ l := by
  induction l with
  | nil => exact List.mem_singleton.trans (or_iff_left List.not_mem_nil).symm
  | cons z zs ih =>
    unfold insertSorted
    split
    · next h => rw [beq_iff_eq.mp h, List.mem_cons, ← or_assoc, or_self]
    · split
      · exact List.mem_cons
      · rw [List.mem_cons, ih, List.mem_cons]; exact or_left_comm

theorem mem_sortDedup (y : String) (l : List String) : y ∈ sortDedup l ↔ y ∈ l := by
  induction l with
  | nil => rfl
  | cons x xs ih => exact (mem_insertSorted x y _).trans ((or_congr_right ih).trans List.mem_cons.symm)

end CM
