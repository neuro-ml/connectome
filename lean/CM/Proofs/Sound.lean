/-
  CM.Proofs.Sound — what soundness is about: well-formed graphs, the pure handlers of a node (`ctxOf`), the denotation of
  an inner node unfolded against them (`den_inner`), sound memo tables (`MemSound`) and what a returning task
  establishes (`Post`).  The soundness theorem itself is in `CM.Proofs.CacheSound`.
-/
import CM.Proofs.WorldFrame
import CM.Proofs.DenLemmas
import CM.Proofs.ProgLemmas
import CM.Proofs.Basics
import CM.Proofs.ScratchLemmas
namespace CM

/-- parents precede children, used inputs are leaves (what `TreeNode.from_edges` and `normalize_bag` rule 1a guarantee) -/
structure GraphBase (g : Graph) : Prop where
  topo : ∀ (n : Nat) (nd : Node), g.nodes[n]? = some nd → ∀ p ∈ nd.parents, p < n
  inputsLeaves : ∀ (n : Nat) (nd : Node), g.nodes[n]? = some nd → g.usedInputs.contains n = true → nd.edge = none

/-- well-formed cache-free graphs: in addition every edge is cache-free, with wrappers around simple edges only (`EdgeK.wf`: what
the repaired decorators guarantee).  `GraphOKC` (CM.Proofs.CacheSound) admits cache edges as well. -/
structure GraphOK (g : Graph) : Prop extends GraphBase g where
  wf : ∀ (n : Nat) (nd : Node) (e : EdgeK), g.nodes[n]? = some nd → nd.edge = some e → e.wf = true

theorem GraphOK.edge_wf {g : Graph} (ok : GraphOK g) {n : Nat} {e : EdgeK} (he : (g.node n).edge = some e) : e.wf = true :=
  ok.wf n _ e (node_of_edge he) he

theorem topo_of_base (g : Graph) (ok : GraphBase g) : g.Topo := by
  intro n p hp
  unfold Graph.parents Graph.node at hp
  rw [List.getD_eq_getElem?_getD] at hp
  cases hn : g.nodes[n]? with
  | none => simp [hn] at hp; cases hp
  | some nd => simp [hn] at hp; exact ok.topo n nd hn p hp

/-- the pure handlers of node `n`: its parents' denotations, its own hash, uninterpreted calls -/
def ctxOf (g : Graph) (d : DenCfg) (n : Nat) : Ctx :=
  { ph := fun j => match (g.parents n)[j]? with
      | some p => (den g d p).h.map (·.1)
      | none => .error .internal
    pv := fun j => match (g.parents n)[j]? with
      | some p => (den g d p).v
      | none => .error .internal
    cur := (den g d n).h
    call := d.call n }

theorem den_inner (g : Graph) (d : DenCfg) (ok : GraphBase g) (n : Nat) (e : EdgeK) (he : (g.node n).edge = some e) :
    (den g d n).h = (interp { ctxOf g d n with cur := .error .internal } (e.hashProg (g.parents n).length)).bind Item.asHout ∧
    (den g d n).v = (interp (ctxOf g d n) (e.evalProg (g.parents n).length)).bind Item.asVal := by
  have hnode := node_of_edge he
  have hin : g.usedInputs.contains n = false := by
    cases hc : g.usedInputs.contains n with
    | false => rfl
    | true => have := ok.inputsLeaves n _ hnode hc; rw [he] at this; cases this
  have hden := den_eq g d n (g.node n) hnode
  -- the context built inside `denNode` is `ctxOf` with an undefined current hash
  have hctx : denCtx d ((denAll g d).take n) n (g.node n) = { ctxOf g d n with cur := .error .internal } := by
    simp only [denCtx, ctxOf, Graph.parents]
    congr 1
    · funext j
      cases hj : (g.node n).parents[j]? with
      | none => rfl
      | some p =>
        have hp : p < n := ok.topo n _ hnode p (List.mem_of_getElem? hj)
        simp only [take_getD g d n p hp]
    · funext j
      cases hj : (g.node n).parents[j]? with
      | none => rfl
      | some p =>
        have hp : p < n := ok.topo n _ hnode p (List.mem_of_getElem? hj)
        simp only [take_getD g d n p hp]
  have hlen : (g.node n).parents.length = (g.parents n).length := rfl
  have hh : (den g d n).h = (interp { ctxOf g d n with cur := .error .internal } (e.hashProg (g.parents n).length)).bind Item.asHout := by
    rw [hden]
    simp only [denNode, hin, he, Bool.false_eq_true, ↓reduceIte, hctx, hlen]
  refine ⟨hh, ?_⟩
  rw [hden]
  simp only [denNode, hin, he, Bool.false_eq_true, ↓reduceIte, hctx, hlen]
  have : ({ ctxOf g d n with cur := (interp { ctxOf g d n with cur := .error .internal } (e.hashProg (g.parents n).length)).bind Item.asHout } : Ctx)
      = ctxOf g d n := by
    rw [← hh]
    rfl
  rw [this]

/-- the value equation of an inner node; the hash equation in its usable form is `den_hash` (CM.Proofs.CacheSound) -/
theorem den_val {g : Graph} (d : DenCfg) (ok : GraphBase g) {n : Nat} {e : EdgeK} (he : (g.node n).edge = some e) :
    (den g d n).v = (interp (ctxOf g d n) (e.evalProg (g.parents n).length)).bind Item.asVal :=
  (den_inner g d ok n e he).2

theorem bind_asHout_ok {r : Except Err Item} {h : NHash} {p : Val} (hr : r.bind Item.asHout = .ok (h, p)) : r = .ok (.hout h p) := by
  obtain ⟨x, rfl, hx⟩ := bind_eq_ok.1 hr
  cases x with
  | hout h' p' => cases hx; rfl
  | _ => cases hx

theorem bind_asVal_ok {r : Except Err Item} {v : Val} (hr : r.bind Item.asVal = .ok v) : r = .ok (.val v) := by
  obtain ⟨x, rfl, hx⟩ := bind_eq_ok.1 hr
  cases x with
  | val v' => cases hx; rfl
  | _ => cases hx

/-- the memo tables hold denotations, and the world agrees with the configuration on which functions are constant or impure and
on the number of the call -/
structure MemSound (g : Graph) (d : DenCfg) (m : Mem) : Prop where
  vals : ∀ n v, m.cache.memo n = some v → (den g d n).v = .ok v
  hashes : ∀ n x, m.hashes.memo n = some x → (den g d n).h = x.asHout
  consts : m.world.constFns = d.constFns
  impure : m.world.impureFns = d.impureFns
  callNo : m.world.callNo = d.callNo

/-- what a successful task establishes -/
def Post (g : Graph) (d : DenCfg) : Task → Item → Prop
  | .hash n, x => (den g d n).h = x.asHout
  | .value n, x => ∃ v, x = .val v ∧ (den g d n).v = .ok v
  | .prog n p, x => interp (ctxOf g d n) p = .ok x
  | .req n r, x => interpReq (ctxOf g d n) r = .ok x
  | .reqs n rsRev acc, x => ∃ xs, interpReqs (ctxOf g d n) rsRev.reverse = .ok xs ∧ x = .tup (xs ++ acc)

theorem call_ok {g : Graph} {d : DenCfg} {m : Mem} (hs : MemSound g d m) {n : Nat} {f : String} {pos : List Val}
    {kwn : List String} {kwv : List Val} {v : Val} {w : World} (h : m.world.call n f pos kwn kwv = (.ok v, w)) :
    v = d.call n f pos kwn kwv := by
  unfold World.call at h
  rw [hs.consts, hs.impure, hs.callNo] at h
  unfold DenCfg.call
  simp only at h ⊢
  split at h
  · cases h
  · revert h
    cases d.constFns.find? (·.1 == f) with
    | some p => exact fun h => (Except.ok.inj (congrArg (·.1) h)).symm
    | none => cases d.impureFns.contains f <;> exact fun h => (Except.ok.inj (congrArg (·.1) h)).symm

theorem MemSound.setHash {g : Graph} {d : DenCfg} {m : Mem} {n : Nat} {x : Item} {h : Scratch Item} (hs : MemSound g d m)
    (hden : (den g d n).h = x.asHout) (hset : m.hashes.set n x = some h) : MemSound g d { m with hashes := h } :=
  ⟨hs.vals, Scratch.set_memo hset hs.hashes hden, hs.consts, hs.impure, hs.callNo⟩

theorem MemSound.setVal {g : Graph} {d : DenCfg} {m : Mem} {n : Nat} {v : Val} {c : Scratch Val} (hs : MemSound g d m)
    (hden : (den g d n).v = .ok v) (hset : m.cache.set n v = some c) : MemSound g d { m with cache := c } :=
  ⟨Scratch.set_memo hset hs.vals hden, hs.hashes, hs.consts, hs.impure, hs.callNo⟩

theorem MemSound.evict {g : Graph} {d : DenCfg} {m : Mem} {ps : List Nat} {h : Scratch Item} {c : Scratch Val} {w : World}
    (hs : MemSound g d { m with world := w }) (hev : evictAll ps m.hashes m.cache = some (h, c)) :
    MemSound g d { hashes := h, cache := c, world := w } := by
  obtain ⟨i1, i2⟩ := evictAll_memo hev
  exact ⟨fun j v hv => hs.vals j v (i2 j v hv), fun j y hy => hs.hashes j y (i1 j y hy), hs.consts, hs.impure, hs.callNo⟩

theorem MemSound.world {g : Graph} {d : DenCfg} {m : Mem} {w : World} (hs : MemSound g d m) (hw : w.fixed = m.world.fixed) :
    MemSound g d { m with world := w } := by
  obtain ⟨c1, c2, c3⟩ := fixed_parts hw
  exact ⟨hs.vals, hs.hashes, c1.trans hs.consts, c2.trans hs.impure, c3.trans hs.callNo⟩

end CM
