/-
  CM.Proofs.Term — stage 4 of `vm_correct`: on a topologically ordered graph, with or without cache edges, every task
  finishes from every memory: it has a derivation (`Finishes`), equivalently `big` answers it with some finite fuel
  (`Halts`, `halts_iff`).  Strong induction on the node; structural induction on the request program inside.
-/
import CM.Proofs.CacheSound
namespace CM

def BRes.isFuel : BRes → Bool
  | .fuel => true
  | _ => false

/-- task `t` finishes from every memory -/
def Halts (g : Graph) (t : Task) : Prop := ∀ m : Mem, ∃ f, (big g f t m).isFuel = false

/-- task `t` returns or raises from memory `m` -/
def Finishes (g : Graph) (t : Task) (m : Mem) : Prop := (∃ x m', Returns g t m x m') ∨ ∃ e m', Throws g t m e m'

theorem halts_iff {g : Graph} {t : Task} : Halts g t ↔ ∀ m, Finishes g t m := by
  constructor
  · intro h m
    obtain ⟨f, hf⟩ := h m
    cases hq : big g f t m with
    | fuel => rw [hq] at hf; cases hf
    | ok x m' => exact .inl ⟨x, m', .of_big hq⟩
    | raised e m' => exact .inr ⟨e, m', .of_big hq⟩
  · intro h m
    rcases h m with ⟨x, m', hr⟩ | ⟨e, m', ht⟩
    · obtain ⟨f, hf⟩ := hr.big
      exact ⟨f, by rw [hf f (Nat.le_refl f)]; rfl⟩
    · obtain ⟨f, hf⟩ := ht.big
      exact ⟨f, by rw [hf f (Nat.le_refl f)]; rfl⟩

/-- what the requests of node `n` in phase `hp` may rely on -/
structure Below (g : Graph) (n : Nat) (hp : Bool) : Prop where
  h : ∀ p, p < n → Halts g (.hash p)
  v : ∀ p, p < n → Halts g (.value p)
  cur : hp = false → Halts g (.hash n)

section
variable {g : Graph} {n : Nat}

theorem finishes_reqs : ∀ (rs : List Req), (∀ r ∈ rs, ∀ m, Finishes g (.req n r) m) → ∀ acc m, Finishes g (.reqs n rs acc) m
  | [], _, _, _ => .inl ⟨_, _, .reqsNil⟩
  | r :: rest, h, acc, m => by
    rcases h r (List.mem_cons_self ..) m with ⟨y, m1, hy⟩ | ⟨e, m1, ht⟩
    · rcases finishes_reqs rest (fun r hr => h r (List.mem_cons_of_mem _ hr)) (y :: acc) m1 with ⟨x, m2, hk⟩ | ⟨e, m2, hk⟩
      · exact .inl ⟨x, m2, .reqsCons hy hk⟩
      · exact .inr ⟨e, m2, .reqsTail hy hk⟩
    · exact .inr ⟨e, m1, .reqsHead ht⟩

/-- asking for the hash of a node that finishes: item 0 or item 1 of its answer, if it has the right form -/
theorem finishes_hashItem {p : Nat} {m : Mem} (h : Finishes g (.hash p) m) :
    (∃ hh pl m1, Returns g (.hash p) m (.hout hh pl) m1) ∨ (∃ x m1, Returns g (.hash p) m x m1 ∧ ∀ hh pl, x ≠ .hout hh pl) ∨
      ∃ e m1, Throws g (.hash p) m e m1 := by
  rcases h with ⟨x, m1, hr⟩ | ht
  · cases x with
    | hout hh pl => exact .inl ⟨hh, pl, m1, hr⟩
    | val _ | hash _ | node _ | tup _ => exact .inr (.inl ⟨_, m1, hr, nofun⟩)
  · exact .inr (.inr ht)

mutual
  theorem finishes_req (ht : g.Topo) (hp : Bool) (b : Below g n hp) : ∀ r : Req, (hp = true → r.noCur = true) →
      ∀ m, Finishes g (.req n r) m
    | .parentHash i, _, m => by
      cases hpi : (g.parents n)[i]? with
      | none => exact .inr ⟨_, _, .noParent hpi (.inl rfl)⟩
      | some p =>
        rcases finishes_hashItem (halts_iff.1 (b.h p (ht n p (List.mem_of_getElem? hpi))) m) with
          ⟨hh, pl, m1, hr⟩ | ⟨x, m1, hr, hbad⟩ | ⟨e, m1, hthr⟩
        · exact .inl ⟨_, m1, .parentHash hpi hr⟩
        · exact .inr ⟨_, m1, .parentHashBad hpi hr hbad⟩
        · exact .inr ⟨e, m1, .parentHash hpi hthr⟩
    | .parentValue i, _, m => by
      cases hpi : (g.parents n)[i]? with
      | none => exact .inr ⟨_, _, .noParent hpi (.inr rfl)⟩
      | some p =>
        rcases halts_iff.1 (b.v p (ht n p (List.mem_of_getElem? hpi))) m with ⟨x, m1, hr⟩ | ⟨e, m1, hthr⟩
        · exact .inl ⟨x, m1, .parentValue hpi hr⟩
        · exact .inr ⟨e, m1, .parentValue hpi hthr⟩
    | .currentHash, hnc, m => by
      have hpf : hp = false := by cases hp <;> first | rfl | exact absurd (hnc rfl) (by simp [Req.noCur])
      rcases finishes_hashItem (halts_iff.1 (b.cur hpf) m) with ⟨hh, pl, m1, hr⟩ | ⟨x, m1, hr, hbad⟩ | ⟨e, m1, hthr⟩
      · exact .inl ⟨_, m1, .currentHash hr⟩
      · exact .inr ⟨_, m1, .currentBad (.inl rfl) hr hbad⟩
      · exact .inr ⟨e, m1, .current (.inl rfl) hthr⟩
    | .payload, hnc, m => by
      have hpf : hp = false := by cases hp <;> first | rfl | exact absurd (hnc rfl) (by simp [Req.noCur])
      rcases finishes_hashItem (halts_iff.1 (b.cur hpf) m) with ⟨hh, pl, m1, hr⟩ | ⟨x, m1, hr, hbad⟩ | ⟨e, m1, hthr⟩
      · exact .inl ⟨_, m1, .payload hr⟩
      · exact .inr ⟨_, m1, .currentBad (.inr rfl) hr hbad⟩
      · exact .inr ⟨e, m1, .current (.inr rfl) hthr⟩
    | .await rs, hnc, m => by
      have hall := finishes_reqList ht hp b rs (fun h => by simpa [Req.noCur] using hnc h)
      rcases finishes_reqs rs.reverse (fun r hr => hall r (List.mem_reverse.mp hr)) [] m with ⟨x, m1, hr⟩ | ⟨e, m1, hthr⟩
      · exact .inl ⟨x, m1, .await hr⟩
      · exact .inr ⟨e, m1, .await hthr⟩
    | .call fn pos kwn kwv, _, m => by
      cases hc : m.world.call n fn pos kwn kwv with
      | mk rv w =>
        cases rv with
        | ok v => exact .inl ⟨_, _, .call hc⟩
        | error e => exact .inr ⟨_, _, .call hc⟩
  theorem finishes_reqList (ht : g.Topo) (hp : Bool) (b : Below g n hp) : ∀ rs : List Req,
      (hp = true → Req.noCurList rs = true) → ∀ r ∈ rs, ∀ m, Finishes g (.req n r) m
    | [], _, r, hr => by cases hr
    | x :: xs, hnc, r, hr => by
      have hnc' : hp = true → x.noCur = true ∧ Req.noCurList xs = true := fun h => by simpa [Req.noCurList] using hnc h
      cases hr with
      | head => exact finishes_req ht hp b x (fun h => (hnc' h).1)
      | tail _ hr => exact finishes_reqList ht hp b xs (fun h => (hnc' h).2) r hr
end

theorem reqList_halts (g : Graph) (ht : g.Topo) (n : Nat) (hp : Bool) (b : Below g n hp) : ∀ rs : List Req,
      (hp = true → Req.noCurList rs = true) → ∀ r ∈ rs, Halts g (.req n r) :=
  fun rs hnc r hr => halts_iff.2 (finishes_reqList ht hp b rs hnc r hr)

/-- the cache operations at the head of a program are run before anything else is looked at -/
theorem finishes_prog_eff {op : StoreOp} {k : Option Val → Prog} {m : Mem}
    (h : Finishes g (.prog n (k (m.world.doOp op).1)) { m with world := (m.world.doOp op).2 }) :
    Finishes g (.prog n (.eff op k)) m := by
  rcases h with ⟨x, m', hr⟩ | ⟨e, m', hthr⟩
  · cases hr with
    | progRet hr hev => exact .inl ⟨_, _, .progRet (p := .eff op k) hr hev⟩
    | progReq hr h1 h2 => exact .inl ⟨_, _, .progReq (p := .eff op k) hr h1 h2⟩
  · cases hthr with
    | progEvict hr hev => exact .inr ⟨_, _, .progEvict (p := .eff op k) hr hev⟩
    | progRaise hr => exact .inr ⟨_, _, .progRaise (p := .eff op k) hr⟩
    | progReq hr h1 => exact .inr ⟨_, _, .progReq (p := .eff op k) hr h1⟩
    | progCont hr h1 h2 => exact .inr ⟨_, _, .progCont (p := .eff op k) hr h1 h2⟩

theorem finishes_prog (ht : g.Topo) (hp : Bool) (b : Below g n hp) :
    ∀ p : Prog, (hp = true → p.NoCur) → ∀ m, Finishes g (.prog n p) m := by
  intro p
  induction p with
  | ret x =>
    intro _ m
    cases hev : evictAll (g.parents n) m.hashes m.cache with
    | none => exact .inr ⟨_, _, .progEvict (p := .ret x) rfl hev⟩
    | some hc => exact .inl ⟨_, _, .progRet (p := .ret x) rfl hev⟩
  | raise e => exact fun _ m => .inr ⟨_, _, .progRaise (p := .raise e) rfl⟩
  | req r k ih =>
    intro hnc m
    have hnc' : hp = true → r.noCur = true ∧ ∀ x, (k x).NoCur := fun h => (hnc h).req_inv
    rcases finishes_req ht hp b r (fun h => (hnc' h).1) m with ⟨y, m1, hy⟩ | ⟨e, m1, hthr⟩
    · rcases ih y (fun h => (hnc' h).2 y) m1 with ⟨x, m2, hk⟩ | ⟨e, m2, hk⟩
      · exact .inl ⟨x, m2, .progReq (p := .req r k) rfl hy hk⟩
      · exact .inr ⟨e, m2, .progCont (p := .req r k) rfl hy hk⟩
    · exact .inr ⟨e, m1, .progReq (p := .req r k) rfl hthr⟩
  | eff op k ih =>
    intro hnc m
    have hpf : hp = false := by cases hp <;> first | rfl | cases hnc rfl
    exact finishes_prog_eff (ih _ (fun h => by rw [hpf] at h; cases h) _)

end

/-- **Termination** (stage 4): computing the hash and the value of any node finishes. -/
theorem node_finishes (g : Graph) (ok : GraphOKC g) : ∀ n m, Finishes g (.hash n) m ∧ Finishes g (.value n) m := by
  have ht := topo_of_base g ok.toGraphBase
  intro n
  induction n using Nat.strongRecOn with
  | _ n ih =>
    have below : ∀ hp, (hp = false → ∀ m, Finishes g (.hash n) m) → Below g n hp := fun hp hcur =>
      ⟨fun p hlt => halts_iff.2 fun m => (ih p hlt m).1, fun p hlt => halts_iff.2 fun m => (ih p hlt m).2,
       fun h => halts_iff.2 (hcur h)⟩
    have hh : ∀ m, Finishes g (.hash n) m := by
      intro m
      cases hx : m.hashes.memo n with
      | some x => exact .inl ⟨_, _, .hashHit hx⟩
      | none =>
        cases he : (g.node n).edge with
        | none => exact .inr ⟨_, _, .hashLeaf hx he⟩
        | some e =>
          rcases finishes_prog ht true (below true nofun) _ (fun _ => hashProg_noCur e (g.parents n).length (ok.edge_wf he)) m with
            ⟨x, m1, hr⟩ | ⟨err, m1, hthr⟩
          · cases hy : m1.hashes.memo n with
            | some _ => exact .inr ⟨_, _, .hashStore hx he hr (by simp [hy])⟩
            | none =>
              cases hset : m1.hashes.set n x with
              | none => exact .inr ⟨_, _, .hashStore hx he hr (fun _ => hset)⟩
              | some h => exact .inl ⟨_, _, .hashRun hx he hr hy hset⟩
          · exact .inr ⟨_, _, .hashProg hx he hthr⟩
    refine fun m => ⟨hh m, ?_⟩
    cases hx : m.cache.memo n with
    | some v => exact .inl ⟨_, _, .valueHit hx⟩
    | none =>
      cases he : (g.node n).edge with
      | none => exact .inr ⟨_, _, .valueLeaf hx he⟩
      | some e =>
        rcases finishes_prog ht false (below false fun _ => hh) (e.evalProg (g.parents n).length) nofun m with
          ⟨x, m1, hr⟩ | ⟨err, m1, hthr⟩
        · have bad := Throws.valueStore hx he hr
          cases x with
          | val v =>
            cases hy : m1.cache.memo n with
            | some _ => exact .inr ⟨_, _, bad (by simp [hy])⟩
            | none =>
              cases hset : m1.cache.set n v with
              | none => exact .inr ⟨_, _, bad (fun _ hv _ => by cases hv; exact hset)⟩
              | some c => exact .inl ⟨_, _, .valueRun hx he hr hy hset⟩
          | hash _ | hout _ _ | node _ | tup _ => exact .inr ⟨_, _, bad nofun⟩
        · exact .inr ⟨_, _, .valueProg hx he hthr⟩

theorem node_halts_c (g : Graph) (ok : GraphOKC g) : ∀ n, Halts g (.hash n) ∧ Halts g (.value n) :=
  fun n => ⟨halts_iff.2 fun m => (node_finishes g ok n m).1, halts_iff.2 fun m => (node_finishes g ok n m).2⟩

end CM
