/-
  CM.Proofs.Correct — `vm_correct`: the stages composed.  For every well-formed graph, with or without cache edges
  (relative to sound stores), and every complete assignment of its used inputs, `Graph.__call__` (the stack machine
  started by CM.Model.VM `Graph.call`) stops after finitely many iterations; what it returns / raises is what the
  cache-free denotation prescribes, or the exception of a user function; the stores stay sound; no node calls its
  user function twice.  The same for `Graph.get_hash`.  A cache-free graph is the case of the empty family.
-/
import CM.Proofs.Sim
import CM.Proofs.RaiseC
import CM.Proofs.Term
namespace CM

/-! ### from `Reaches` to `run` -/

theorem run_of_reaches (g : Graph) {s s' : St} (h : Reaches g s s') (o : Outcome) (ho : ∀ t, o ≠ .next t)
    (hs : step g s' = o) : ∀ k, ∃ N steps, ∀ fuel, N ≤ fuel → run g fuel s k = some (o, steps) := by
  induction h with
  | refl s =>
    refine fun k => ⟨1, k + 1, fun fuel hf => ?_⟩
    obtain ⟨fuel', rfl⟩ : ∃ f', fuel = f' + 1 := ⟨fuel - 1, by omega⟩
    -- `simp` selects the catch-all alternative of `run`'s `match` by `ho`
    simp only [run, hs]
  | head hstep _ ih =>
    intro k
    obtain ⟨N, steps, hN⟩ := ih hs (k + 1)
    refine ⟨N + 1, steps, ?_⟩
    intro fuel hf
    obtain ⟨fuel', rfl⟩ : ∃ f', fuel = f' + 1 := ⟨fuel - 1, by omega⟩
    simp only [run, hstep]
    exact hN fuel' (by omega)

theorem run_mono (g : Graph) : ∀ (k : Nat) (st : St) (c : Nat) (r : Outcome × Nat), run g k st c = some r →
    ∀ k', k ≤ k' → run g k' st c = some r := by
  intro k
  induction k with
  | zero => intro st c r h; simp [run] at h
  | succ k ih =>
    intro st c r h k' hk
    obtain ⟨k'', rfl⟩ : ∃ j, k' = j + 1 := ⟨k' - 1, by omega⟩
    simp only [run] at h ⊢
    cases hs : step g st with
    | next st' => simp only [hs] at h ⊢; exact ih st' _ r h k'' (by omega)
    | done _ _ => simp only [hs] at h ⊢; exact h
    | raised _ _ => simp only [hs] at h ⊢; exact h

/-- a task that finishes, run by the machine on an empty stack: from some fuel on the outcome is the same, and it is that of the
derivation -/
theorem run_finishes {g : Graph} {t : Task} {m : Mem} {s : St} (h : Finishes g t m) (hs : Starts t [] [.ret] m s) :
    ∃ N o steps, (∀ fuel, N ≤ fuel → run g fuel s 0 = some (o, steps)) ∧
      ((∃ x m', o = .done x ⟨[], [], m'⟩ ∧ Returns g t m x m') ∨ (∃ e s', o = .raised e s' ∧ Throws g t m e s'.mem)) := by
  rcases h with ⟨x, m', hd⟩ | ⟨e, m', hd⟩
  · obtain ⟨N, steps, hN⟩ := run_of_reaches g (hd.reaches [] [.ret] s hs) (.done x ⟨[], [], m'⟩) nofun (by simp [step]) 0
    exact ⟨N, _, steps, hN, .inl ⟨x, m', rfl, hd⟩⟩
  · obtain ⟨s', s'', hreach, hstep, rfl⟩ := hd.raises [] [.ret] s hs
    obtain ⟨N, steps, hN⟩ := run_of_reaches g hreach (.raised e s'') nofun hstep 0
    exact ⟨N, _, steps, hN, .inr ⟨e, s'', rfl, hd⟩⟩

/-! ### the start of a call -/

/-- the cache-free reading of a world: which functions are constants / impure, and the number of the call -/
def denCfgOf (env : String → Option Val) (w : World) : DenCfg :=
  { env := env, callNo := w.callNo, impureFns := w.impureFns, constFns := w.constFns }

/-- what `Graph.__init__` / `signature.bind` guarantee before the machine starts -/
structure CallOK (g : Graph) (env : String → Option Val) : Prop where
  /-- every used input received an argument -/
  bound : ∀ j, g.usedInputs.contains j = true → (env (g.node j).name).isSome = true
  inRange : ∀ j, g.usedInputs.contains j = true → j < g.nodes.length
  outRange : g.output < g.nodes.length

def Graph.initMem (g : Graph) (env : String → Option Val) (w : World) : Mem :=
  { hashes := (g.initScratch env).1, cache := (g.initScratch env).2, world := w }

theorem initSt_eq (g : Graph) (env : String → Option Val) (cmd : Cmd) (w : World) :
    g.initSt env cmd w = ⟨[.node g.output], [cmd, .ret], g.initMem env w⟩ := rfl

theorem init_memSound (g : Graph) (env : String → Option Val) (w : World) (hc : CallOK g env) :
    MemSound g (denCfgOf env w) (g.initMem env w) := by
  refine ⟨?_, ?_, rfl, rfl, rfl⟩
  · intro n v hm
    simp only [Graph.initMem, Graph.initScratch] at hm
    split at hm
    · next hu =>
      rw [den_input g (denCfgOf env w) n v hu (hc.inRange n hu) hm]
    · cases hm
  · intro n x hm
    simp only [Graph.initMem, Graph.initScratch] at hm
    split at hm
    · next hu =>
      cases hv : env (g.node n).name with
      | none => simp [hv] at hm
      | some v =>
        simp only [hv, Option.map_some, Option.some.injEq] at hm
        subst hm
        rw [den_input g (denCfgOf env w) n v hu (hc.inRange n hu) hv]
        rfl
    · cases hm

theorem init_cinv (g : Graph) (ht : g.Topo) (env : String → Option Val) (w : World) (hc : CallOK g env) :
    CInv g (g.initMem env w) Ghost.none none none := by
  have hcnt : ∀ p, (if g.counts 2 p = 0 then none else some (g.counts 2 p)) = toOpt (remaining g Ghost.none p) := by
    intro p; rw [remaining_init g ht p]; exact toOpt_eq _
  have hused : ∀ n, g.inputs.contains n = true → remaining g Ghost.none n ≠ 0 → g.usedInputs.contains n = true := by
    intro n hin hr
    rw [remaining_init g ht n] at hr
    rw [usedInputs_contains, hin]
    simpa using hr
  refine ⟨fun p => hcnt p, fun p => hcnt p, ?_, ?_, ?_, ?_⟩
  · intro n _ hd; simp [Ghost.none] at hd
  · intro n _ hd; simp [Ghost.none] at hd
  -- a declared input that is still counted is a used input, and both tables start with its argument
  all_goals
    intro n hin hr
    have hu := hused n hin hr
    have hb := hc.bound n hu
    simp only [Graph.initMem, Graph.initScratch, hu, ↓reduceIte]
    cases hv : env (g.node n).name with
    | none => simp [hv] at hb
    | some v => simp

theorem output_active (g : Graph) (ht : g.Topo) : remaining g Ghost.none g.output ≠ 0 := by
  rw [remaining_init g ht, init_spec g ht]
  simp

theorem call_unique {g : Graph} {env : String → Option Val} {w : World} {fuel N : Nat} {r r' : Outcome × Nat}
    (h : g.call env w fuel = some r) (h' : ∀ fuel, N ≤ fuel → g.call env w fuel = some r') : r = r' := by
  have h1 := run_mono g fuel _ 0 _ h (max fuel N) (Nat.le_max_left ..)
  have h2 := h' (max fuel N) (Nat.le_max_right ..)
  simp only [Graph.call] at h2
  rw [h1] at h2
  injection h2

/-- whatever fuel lets a call finish, its outcome is that of a derivation at the output node -/
theorem call_deriv {g : Graph} (ok : GraphOKC g) {env : String → Option Val} {w : World} {fuel steps : Nat} {o : Outcome}
    (hrun : g.call env w fuel = some (o, steps)) :
    (∃ x m', o = .done x ⟨[], [], m'⟩ ∧ Returns g (.value g.output) (g.initMem env w) x m') ∨
      (∃ e s', o = .raised e s' ∧ Throws g (.value g.output) (g.initMem env w) e s'.mem) := by
  obtain ⟨N, o', steps', hN, hd⟩ := run_finishes (node_finishes g ok g.output _).2 (s := g.initSt env .evaluate w) rfl
  cases call_unique hrun hN
  exact hd

/-! ### the theorems -/

/-- what the caller of `Graph.__call__` observes -/
def ValueSpec (g : Graph) (d : DenCfg) (faults : Bool) : Outcome → Prop
  | .done x _ => ∃ v, x = .val v ∧ vden g d = .ok v
  | .raised e _ => (∃ fn, e = .user fn ∧ faults = true) ∨ vden g d = .error e
  | .next _ => False

/-- what the caller of `Graph.get_hash` observes -/
def HashSpec (g : Graph) (d : DenCfg) (faults : Bool) : Outcome → Prop
  | .done x _ => hden g d = x.asHout.map (·.1)
  | .raised e _ => (∃ fn, e = .user fn ∧ faults = true) ∨ hden g d = .error e
  | .next _ => False

/-- the memory an outcome leaves -/
def Outcome.mem : Outcome → Mem
  | .next s | .done _ s | .raised _ s => s.mem

theorem init_preL (g : Graph) (env : String → Option Val) (w : World) (hlog : w.log = []) (t : Task) (hp : Bool) (b : Nat) (hb : budOK b t) :
    PreL g (g.initMem env w) Ghost.none hp b 0 (cost g Ghost.none hp b t) t := by
  have hc : ∀ j, calls (g.initMem env w) j = 0 := by intro j; simp [calls, Graph.initMem, hlog]
  exact ⟨fun j _ => by rw [hc j]; exact Nat.zero_le _, by rw [hc]; omega, hb⟩

/-- **`vm_correct`, at the output node.**  Asked for the hash or for the value of the output, the machine stops; what it returns
is the denotation; what it raises is a scheduled exception of a user function or the denotation's own error; the stores stay
sound; started with an empty call log, no node has called twice.  The graph has to belong to the family only if it has a cache
edge. -/
theorem root_spec (F : Fam) (g : Graph) (ok : GraphOKC g) (env : String → Option Val) (w : World) (hc : CallOK g env)
    (hF : g.HasCache → F g (denCfgOf env w)) (hst : StoreSound F w) {t : Task} (ht : t = .hash g.output ∨ t = .value g.output)
    {s : St} (hs : Starts t [] [.ret] (g.initMem env w) s) :
    ∃ N o steps, (∀ fuel, N ≤ fuel → run g fuel s 0 = some (o, steps)) ∧
      (match o with
       | .done x _ => Post g (denCfgOf env w) t x
       | .raised e _ => (∃ fn, e = .user fn ∧ w.failAt ≠ []) ∨ PostErr g (denCfgOf env w) t e
       | .next _ => False) ∧
      StoreSound F o.mem.world ∧ (w.log = [] → ∀ j, calls o.mem j ≤ 1) := by
  have htopo := topo_of_base g ok.toGraphBase
  have hone := Graph.hb_add_vb_le_one g ok
  have hms := init_memSound g env w hc
  have hi := init_cinv g htopo env w hc
  have hnode : t.node = g.output := by rcases ht with rfl | rfl <;> rfl
  have hpre : PreCC g Ghost.none true t := by rcases ht with rfl | rfl <;> exact output_active g htopo
  have htask : TaskOKC F g (denCfgOf env w) t := by rcases ht with rfl | rfl <;> trivial
  have hbud : budOK 0 t := by rcases ht with rfl | rfl <;> trivial
  have hK : cost g Ghost.none true 0 t ≤ 1 := by
    have := hone g.output
    rcases ht with rfl | rfl <;> simp only [cost, pendV, pendH, Ghost.none, b2n, Bool.not_false, ↓reduceIte, Nat.one_mul] <;> omega
  have once : w.log = [] → ∀ m' : Mem, (∀ j, j ≤ g.output → calls m' j ≤ 1) → (∀ j, g.output < j → calls m' j = calls (g.initMem env w) j) →
      ∀ j, calls m' j ≤ 1 := by
    intro hlog m' h1 h2 j
    by_cases hj : j ≤ g.output
    · exact h1 j hj
    · rw [h2 j (by omega)]; simp [calls, Graph.initMem, hlog]
  have hh : Finishes g t (g.initMem env w) := by
    rcases ht with rfl | rfl
    · exact (node_finishes g ok g.output _).1
    · exact (node_finishes g ok g.output _).2
  obtain ⟨N, o, steps, hN, hd⟩ := run_finishes hh hs
  refine ⟨N, o, steps, hN, ?_⟩
  rcases hd with ⟨x, m', rfl, hd⟩ | ⟨e, s', rfl, hd⟩
  · obtain ⟨⟨_, hw'⟩, hpost⟩ := hd.sound ok hF hms hst htask
    refine ⟨hpost, hw', fun hlog => ?_⟩
    obtain ⟨G', _, pl⟩ := hd.inv ok true _ hi hpre
    have p := pl 0 0 _ (init_preL g env w hlog t true 0 hbud)
    exact once hlog m' (fun j hj => post_le_one g hone p hK j (hnode ▸ hj)) (fun j hj => p.frame j (hnode ▸ hj))
  · obtain ⟨hA, hB⟩ := hd.spec ok hF true _ hms hst htask hi hpre
    refine ⟨hA, hd.sound ok hF hms hst htask, fun hlog => ?_⟩
    have p := hB 0 0 _ (init_preL g env w hlog t true 0 hbud) hK
    exact once hlog s'.mem (fun j hj => p.1 j (hnode ▸ hj)) (fun j hj => p.2 j (hnode ▸ hj))

theorem faults_iff (w : World) : w.failAt ≠ [] ↔ (!w.failAt.isEmpty) = true := by simp

/-- **`vm_correct`, values**, with the stores and the call log. -/
theorem call_spec (F : Fam) (g : Graph) (ok : GraphOKC g) (env : String → Option Val) (w : World) (hc : CallOK g env)
    (hF : g.HasCache → F g (denCfgOf env w)) (hst : StoreSound F w) :
    ∃ N o steps, (∀ fuel, N ≤ fuel → g.call env w fuel = some (o, steps)) ∧
      ValueSpec g (denCfgOf env w) (!w.failAt.isEmpty) o ∧ StoreSound F o.mem.world ∧ (w.log = [] → ∀ j, calls o.mem j ≤ 1) := by
  obtain ⟨N, o, steps, hN, hspec, hrest⟩ := root_spec F g ok env w hc hF hst (.inr rfl) (s := g.initSt env .evaluate w) rfl
  refine ⟨N, o, steps, hN, ?_, hrest⟩
  cases o with
  | next _ => exact hspec
  | done x _ => show ∃ v, _ ∧ vden g _ = _; rw [vden_eq g _ hc.outRange]; exact hspec
  | raised e _ =>
    refine hspec.imp (fun ⟨fn, h1, h2⟩ => ⟨fn, h1, (faults_iff w).1 h2⟩) fun h => ?_
    rw [vden_eq g _ hc.outRange]; exact h

/-- without scheduled failures the outcome *is* the denotation: a value for a value, the same exception for an exception -/
theorem ValueSpec.no_faults {g : Graph} {d : DenCfg} {o : Outcome} (h : ValueSpec g d false o) :
    match vden g d with
    | .ok v => ∃ s, o = .done (.val v) s
    | .error e => ∃ s, o = .raised e s := by
  cases o with
  | next _ => exact h.elim
  | done x s =>
    obtain ⟨v, hx, hv⟩ := h
    rw [hv]; exact ⟨s, by rw [hx]⟩
  | raised e s =>
    rcases h with ⟨_, _, h2⟩ | h
    · cases h2
    · rw [h]; exact ⟨s, rfl⟩

/-- **`vm_correct`, values, cache-free and without scheduled failures**: the form the pipeline theorems compose with -/
theorem call_no_faults (g : Graph) (ok : GraphOK g) (env : String → Option Val) (w : World) (hc : CallOK g env)
    (hf : w.failAt = []) :
    ∃ N o steps, (∀ fuel, N ≤ fuel → g.call env w fuel = some (o, steps)) ∧
      match vden g (denCfgOf env w) with
      | .ok v => ∃ s, o = .done (.val v) s
      | .error e => ∃ s, o = .raised e s := by
  obtain ⟨N, o, steps, hrun, hspec, _⟩ := call_spec _ g ok.toC env w hc (fun h => absurd h ok.noCache) (storeSound_empty w)
  rw [hf] at hspec
  exact ⟨N, o, steps, hrun, hspec.no_faults⟩

/-- **`vm_correct`, node hashes.** -/
theorem getHash_correct (g : Graph) (ok : GraphOK g) (env : String → Option Val) (w : World) (hc : CallOK g env) :
    ∃ N o steps, (∀ fuel, N ≤ fuel → g.getHash env w fuel = some (o, steps)) ∧ HashSpec g (denCfgOf env w) (!w.failAt.isEmpty) o := by
  obtain ⟨N, o, steps, hN, hspec, _⟩ := root_spec _ g ok.toC env w hc (fun h => absurd h ok.noCache) (storeSound_empty w)
    (.inl rfl) (s := g.initSt env .computeHash w) rfl
  refine ⟨N, o, steps, hN, ?_⟩
  cases o with
  | next _ => exact hspec
  | done x _ =>
    show hden g _ = _
    rw [hden_eq g _ hc.outRange, show (den g _ _).h = _ from hspec]
  | raised e _ =>
    refine hspec.imp (fun ⟨fn, h1, h2⟩ => ⟨fn, h1, (faults_iff w).1 h2⟩) fun h => ?_
    rw [hden_eq g _ hc.outRange, show (den g _ _).h = _ from h]; rfl

/-- **At most once.**  Started with an empty call log, a call of the compiled function — whether it returns or
raises — leaves at most one logged call per node: no user function is executed twice on behalf of the same node. -/
theorem call_once (g : Graph) (ok : GraphOK g) (env : String → Option Val) (w : World) (hc : CallOK g env) (hlog : w.log = []) :
    ∃ N o steps, (∀ fuel, N ≤ fuel → g.call env w fuel = some (o, steps)) ∧ ∀ j, calls o.mem j ≤ 1 := by
  obtain ⟨N, o, steps, hN, _, _, h⟩ := call_spec _ g ok.toC env w hc (fun h => absurd h ok.noCache) (storeSound_empty w)
  exact ⟨N, o, steps, hN, h hlog⟩

end CM
