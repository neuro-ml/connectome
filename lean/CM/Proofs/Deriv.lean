/-
  CM.Proofs.Deriv — the runs of the big-step evaluator as derivations.  `Returns g t m x m'` / `Throws g t m e m'`:
  task `t`, started in memory `m`, returns `x` / lets `e` escape, leaving memory `m'`; one rule per way `big` can
  take (three raising rules serve two requests each: `noParent`, `current`, `currentBad`).  Every finished run of `big`
  is such a derivation (`big_deriv`), and every derivation is what `big` answers with any fuel that suffices
  (`Returns.big`, `Throws.big`); so a property of all runs is proved by induction on derivations, with the induction
  hypotheses about the sub-tasks at hand and no fuel.
-/
import CM.Proofs.Big
namespace CM

inductive Returns (g : Graph) : Task → Mem → Item → Mem → Prop
  | hashHit {n m x} : m.hashes.memo n = some x → Returns g (.hash n) m x m
  | hashRun {n m e x m1 h} : m.hashes.memo n = none → (g.node n).edge = some e →
      Returns g (.prog n (e.hashProg (g.parents n).length)) m x m1 →
      m1.hashes.memo n = none → m1.hashes.set n x = some h → Returns g (.hash n) m x { m1 with hashes := h }
  | valueHit {n m v} : m.cache.memo n = some v → Returns g (.value n) m (.val v) m
  | valueRun {n m e v m1 c} : m.cache.memo n = none → (g.node n).edge = some e →
      Returns g (.prog n (e.evalProg (g.parents n).length)) m (.val v) m1 →
      m1.cache.memo n = none → m1.cache.set n v = some c → Returns g (.value n) m (.val v) { m1 with cache := c }
  | progRet {n p m x w h c} : runEffs p m.world = (.ret x, w) → evictAll (g.parents n) m.hashes m.cache = some (h, c) →
      Returns g (.prog n p) m x { hashes := h, cache := c, world := w }
  | progReq {n p m r k w y m1 x m2} : runEffs p m.world = (.req r k, w) → Returns g (.req n r) { m with world := w } y m1 →
      Returns g (.prog n (k y)) m1 x m2 → Returns g (.prog n p) m x m2
  | parentHash {n i m p h pl m1} : (g.parents n)[i]? = some p → Returns g (.hash p) m (.hout h pl) m1 →
      Returns g (.req n (.parentHash i)) m (.hash h) m1
  | parentValue {n i m p x m1} : (g.parents n)[i]? = some p → Returns g (.value p) m x m1 →
      Returns g (.req n (.parentValue i)) m x m1
  | currentHash {n m h pl m1} : Returns g (.hash n) m (.hout h pl) m1 → Returns g (.req n .currentHash) m (.hash h) m1
  | payload {n m h pl m1} : Returns g (.hash n) m (.hout h pl) m1 → Returns g (.req n .payload) m (.val pl) m1
  | await {n rs m x m1} : Returns g (.reqs n rs.reverse []) m x m1 → Returns g (.req n (.await rs)) m x m1
  | call {n fn pos kwn kwv m v w} : m.world.call n fn pos kwn kwv = (.ok v, w) →
      Returns g (.req n (.call fn pos kwn kwv)) m (.val v) { m with world := w }
  | reqsNil {n acc m} : Returns g (.reqs n [] acc) m (.tup acc) m
  | reqsCons {n r rest acc m y m1 x m2} : Returns g (.req n r) m y m1 → Returns g (.reqs n rest (y :: acc)) m1 x m2 →
      Returns g (.reqs n (r :: rest) acc) m x m2

/-- `.internal` is what `big` raises at the machine's own failure points: a node without an edge, `Store` on a present or
uncounted key, eviction of an absent key, an answer of the wrong kind. -/
inductive Throws (g : Graph) : Task → Mem → Err → Mem → Prop
  | hashLeaf {n m} : m.hashes.memo n = none → (g.node n).edge = none → Throws g (.hash n) m .internal m
  | hashProg {n m e err m1} : m.hashes.memo n = none → (g.node n).edge = some e →
      Throws g (.prog n (e.hashProg (g.parents n).length)) m err m1 → Throws g (.hash n) m err m1
  | hashStore {n m e x m1} : m.hashes.memo n = none → (g.node n).edge = some e →
      Returns g (.prog n (e.hashProg (g.parents n).length)) m x m1 →
      (m1.hashes.memo n = none → m1.hashes.set n x = none) → Throws g (.hash n) m .internal m1
  | valueLeaf {n m} : m.cache.memo n = none → (g.node n).edge = none → Throws g (.value n) m .internal m
  | valueProg {n m e err m1} : m.cache.memo n = none → (g.node n).edge = some e →
      Throws g (.prog n (e.evalProg (g.parents n).length)) m err m1 → Throws g (.value n) m err m1
  | valueStore {n m e x m1} : m.cache.memo n = none → (g.node n).edge = some e →
      Returns g (.prog n (e.evalProg (g.parents n).length)) m x m1 →
      (∀ v, x = .val v → m1.cache.memo n = none → m1.cache.set n v = none) → Throws g (.value n) m .internal m1
  | progEvict {n p m x w} : runEffs p m.world = (.ret x, w) → evictAll (g.parents n) m.hashes m.cache = none →
      Throws g (.prog n p) m .internal { m with world := w }
  | progRaise {n p m e w} : runEffs p m.world = (.raise e, w) → Throws g (.prog n p) m e { m with world := w }
  | progReq {n p m r k w e m1} : runEffs p m.world = (.req r k, w) → Throws g (.req n r) { m with world := w } e m1 →
      Throws g (.prog n p) m e m1
  | progCont {n p m r k w y m1 e m2} : runEffs p m.world = (.req r k, w) → Returns g (.req n r) { m with world := w } y m1 →
      Throws g (.prog n (k y)) m1 e m2 → Throws g (.prog n p) m e m2
  | noParent {n i r m} : (g.parents n)[i]? = none → r = .parentHash i ∨ r = .parentValue i → Throws g (.req n r) m .internal m
  | parentHash {n i m p e m1} : (g.parents n)[i]? = some p → Throws g (.hash p) m e m1 → Throws g (.req n (.parentHash i)) m e m1
  | parentHashBad {n i m p x m1} : (g.parents n)[i]? = some p → Returns g (.hash p) m x m1 → (∀ h pl, x ≠ .hout h pl) →
      Throws g (.req n (.parentHash i)) m .internal m1
  | parentValue {n i m p e m1} : (g.parents n)[i]? = some p → Throws g (.value p) m e m1 → Throws g (.req n (.parentValue i)) m e m1
  | current {n r m e m1} : r = .currentHash ∨ r = .payload → Throws g (.hash n) m e m1 → Throws g (.req n r) m e m1
  | currentBad {n r m x m1} : r = .currentHash ∨ r = .payload → Returns g (.hash n) m x m1 → (∀ h pl, x ≠ .hout h pl) →
      Throws g (.req n r) m .internal m1
  | await {n rs m e m1} : Throws g (.reqs n rs.reverse []) m e m1 → Throws g (.req n (.await rs)) m e m1
  | call {n fn pos kwn kwv m e w} : m.world.call n fn pos kwn kwv = (.error e, w) →
      Throws g (.req n (.call fn pos kwn kwv)) m e { m with world := w }
  | reqsHead {n r rest acc m e m1} : Throws g (.req n r) m e m1 → Throws g (.reqs n (r :: rest) acc) m e m1
  | reqsTail {n r rest acc m y m1 e m2} : Returns g (.req n r) m y m1 → Throws g (.reqs n rest (y :: acc)) m1 e m2 →
      Throws g (.reqs n (r :: rest) acc) m e m2

theorem runEffs_ne_eff (op : StoreOp) (k : Option Val → Prog) : ∀ (p : Prog) (w : World), (runEffs p w).1 ≠ .eff op k
  | .ret _, _ => nofun
  | .raise _, _ => nofun
  | .req _ _, _ => nofun
  | .eff op' k', w => by rw [runEffs]; exact runEffs_ne_eff op k _ _

def BRes.Derives (g : Graph) (t : Task) (m : Mem) : BRes → Prop
  | .ok x m' => Returns g t m x m'
  | .raised e m' => Throws g t m e m'
  | .fuel => True

theorem big_deriv (g : Graph) : ∀ (f : Nat) (t : Task) (m : Mem), (big g f t m).Derives g t m := by
  intro f
  induction f with
  | zero => intro t m; trivial
  | succ f ih =>
    intro t m
    cases t with
    | hash n =>
      rw [CM.big]
      cases hx : m.hashes.memo n with
      | some x0 => exact .hashHit hx
      | none =>
        simp only
        cases he : (g.node n).edge with
        | none => exact .hashLeaf hx he
        | some e =>
          simp only
          have ihp := ih (.prog n (e.hashProg (g.parents n).length)) m
          generalize big g f (.prog n (e.hashProg (g.parents n).length)) m = q at ihp ⊢
          cases q with
          | fuel => trivial
          | raised e1 m1 => exact .hashProg hx he ihp
          | ok x1 m1 =>
            simp only
            cases hy : m1.hashes.memo n with
            | some _ => exact .hashStore hx he ihp (by simp [hy])
            | none =>
              simp only
              cases hset : m1.hashes.set n x1 with
              | none => exact .hashStore hx he ihp (fun _ => hset)
              | some h' => exact .hashRun hx he ihp hy hset
    | value n =>
      rw [CM.big]
      cases hx : m.cache.memo n with
      | some v0 => exact .valueHit hx
      | none =>
        simp only
        cases he : (g.node n).edge with
        | none => exact .valueLeaf hx he
        | some e =>
          simp only
          have ihp := ih (.prog n (e.evalProg (g.parents n).length)) m
          generalize big g f (.prog n (e.evalProg (g.parents n).length)) m = q at ihp ⊢
          cases q with
          | fuel => trivial
          | raised e1 m1 => exact .valueProg hx he ihp
          | ok x1 m1 =>
            have bad : (∀ v, x1 = .val v → m1.cache.memo n = none → m1.cache.set n v = none) → Throws g (.value n) m .internal m1 :=
              .valueStore hx he ihp
            cases x1 with
            | val v =>
              simp only
              cases hy : m1.cache.memo n with
              | some _ => exact bad (by simp [hy])
              | none =>
                simp only
                cases hset : m1.cache.set n v with
                | none => exact bad (fun _ hv _ => by cases hv; exact hset)
                | some c' => exact .valueRun hx he ihp hy hset
            | hash _ | hout _ _ | node _ | tup _ => exact bad nofun
    | prog n p =>
      rw [CM.big]
      have hne := runEffs_ne_eff (p := p) (w := m.world)
      cases hr : runEffs p m.world with
      | mk p' w =>
        rw [hr] at hne
        cases p' with
        | ret x1 =>
          simp only
          cases hev : evictAll (g.parents n) m.hashes m.cache with
          | none => exact .progEvict hr hev
          | some hc => exact .progRet hr hev
        | raise e1 => exact .progRaise hr
        | eff op k => exact absurd rfl (hne op k)
        | req r k =>
          simp only
          have ihr := ih (.req n r) { m with world := w }
          generalize big g f (.req n r) { m with world := w } = q at ihr ⊢
          cases q with
          | fuel => trivial
          | raised e1 m1 => exact .progReq hr ihr
          | ok y m1 =>
            have ihk := ih (.prog n (k y)) m1
            simp only
            generalize big g f (.prog n (k y)) m1 = q at ihk ⊢
            cases q with
            | fuel => trivial
            | raised e2 m2 => exact .progCont hr ihr ihk
            | ok x m2 => exact .progReq hr ihr ihk
    | req n r =>
      cases r with
      | parentHash i =>
        rw [CM.big]
        cases hp : (g.parents n)[i]? with
        | none => exact .noParent hp (.inl rfl)
        | some p =>
          simp only
          have ihh := ih (.hash p) m
          generalize big g f (.hash p) m = q at ihh ⊢
          cases q with
          | fuel => trivial
          | raised e1 m1 => exact .parentHash hp ihh
          | ok y m1 =>
            cases y with
            | hout h pl => exact .parentHash hp ihh
            | val _ | hash _ | node _ | tup _ => exact .parentHashBad hp ihh nofun
      | parentValue i =>
        rw [CM.big]
        cases hp : (g.parents n)[i]? with
        | none => exact .noParent hp (.inr rfl)
        | some p =>
          simp only
          have ihv := ih (.value p) m
          generalize big g f (.value p) m = q at ihv ⊢
          cases q with
          | fuel => trivial
          | raised e1 m1 => exact .parentValue hp ihv
          | ok y m1 => exact .parentValue hp ihv
      | currentHash =>
        rw [CM.big]
        have ihh := ih (.hash n) m
        generalize big g f (.hash n) m = q at ihh ⊢
        cases q with
        | fuel => trivial
        | raised e1 m1 => exact .current (.inl rfl) ihh
        | ok y m1 =>
          cases y with
          | hout h pl => exact .currentHash ihh
          | val _ | hash _ | node _ | tup _ => exact .currentBad (.inl rfl) ihh nofun
      | payload =>
        rw [CM.big]
        have ihh := ih (.hash n) m
        generalize big g f (.hash n) m = q at ihh ⊢
        cases q with
        | fuel => trivial
        | raised e1 m1 => exact .current (.inr rfl) ihh
        | ok y m1 =>
          cases y with
          | hout h pl => exact .payload ihh
          | val _ | hash _ | node _ | tup _ => exact .currentBad (.inr rfl) ihh nofun
      | await rs =>
        rw [CM.big]
        have ihs := ih (.reqs n rs.reverse []) m
        generalize big g f (.reqs n rs.reverse []) m = q at ihs ⊢
        cases q with
        | fuel => trivial
        | raised e1 m1 => exact .await ihs
        | ok y m1 => exact .await ihs
      | call fn pos kwn kwv =>
        rw [CM.big]
        cases hc : m.world.call n fn pos kwn kwv with
        | mk rv w =>
          cases rv with
          | ok v => exact .call hc
          | error e1 => exact .call hc
    | reqs n rsRev acc =>
      cases rsRev with
      | nil => rw [CM.big]; exact .reqsNil
      | cons r rest =>
        rw [CM.big]
        have ihr := ih (.req n r) m
        generalize big g f (.req n r) m = q at ihr ⊢
        cases q with
        | fuel => trivial
        | raised e1 m1 => exact .reqsHead ihr
        | ok y m1 =>
          have ihk := ih (.reqs n rest (y :: acc)) m1
          simp only
          generalize big g f (.reqs n rest (y :: acc)) m1 = q at ihk ⊢
          cases q with
          | fuel => trivial
          | raised e2 m2 => exact .reqsTail ihr ihk
          | ok x m2 => exact .reqsCons ihr ihk

theorem Returns.of_big {g : Graph} {f : Nat} {t : Task} {m : Mem} {x : Item} {m' : Mem} (h : big g f t m = .ok x m') :
    Returns g t m x m' := by
  have := big_deriv g f t m; rwa [h] at this

theorem Throws.of_big {g : Graph} {f : Nat} {t : Task} {m : Mem} {e : Err} {m' : Mem} (h : big g f t m = .raised e m') :
    Throws g t m e m' := by
  have := big_deriv g f t m; rwa [h] at this

/-! ### every derivation is a run of `big`, with any fuel that suffices -/

theorem exists_succ_of_le {f f' : Nat} (h : f + 1 ≤ f') : ∃ k, f' = k + 1 ∧ f ≤ k := ⟨f' - 1, by omega, by omega⟩

theorem Returns.big {g : Graph} {t : Task} {m : Mem} {x : Item} {m' : Mem} (h : Returns g t m x m') :
    ∃ f, ∀ f', f ≤ f' → big g f' t m = .ok x m' := by
  induction h with
  | hashHit hx | valueHit hx => exact ⟨1, fun f' h => by obtain ⟨k, rfl, _⟩ := exists_succ_of_le h; rw [CM.big]; simp only [hx]⟩
  | hashRun hx he _ hy hset ih | valueRun hx he _ hy hset ih =>
    obtain ⟨f, hf⟩ := ih
    exact ⟨f + 1, fun f' h => by obtain ⟨k, rfl, hk⟩ := exists_succ_of_le h; rw [CM.big]; simp only [hx, he, hf k hk, hy, hset]⟩
  | progRet hr hev => exact ⟨1, fun f' h => by obtain ⟨k, rfl, _⟩ := exists_succ_of_le h; rw [CM.big]; simp only [hr, hev]⟩
  | progReq hr _ _ ihr ihk =>
    obtain ⟨f1, h1⟩ := ihr
    obtain ⟨f2, h2⟩ := ihk
    exact ⟨max f1 f2 + 1, fun f' h => by
      obtain ⟨k, rfl, hk⟩ := exists_succ_of_le h
      rw [CM.big]; simp only [hr, h1 k (by omega), h2 k (by omega)]⟩
  | parentHash hp _ ih | parentValue hp _ ih =>
    obtain ⟨f, hf⟩ := ih
    exact ⟨f + 1, fun f' h => by obtain ⟨k, rfl, hk⟩ := exists_succ_of_le h; rw [CM.big]; simp only [hp, hf k hk]⟩
  | currentHash _ ih | payload _ ih | await _ ih =>
    obtain ⟨f, hf⟩ := ih
    exact ⟨f + 1, fun f' h => by obtain ⟨k, rfl, hk⟩ := exists_succ_of_le h; rw [CM.big]; simp only [hf k hk]⟩
  | call hc => exact ⟨1, fun f' h => by obtain ⟨k, rfl, _⟩ := exists_succ_of_le h; rw [CM.big]; simp only [hc]⟩
  | reqsNil => exact ⟨1, fun f' h => by obtain ⟨k, rfl, _⟩ := exists_succ_of_le h; rw [CM.big]⟩
  | reqsCons _ _ ihr ihk =>
    obtain ⟨f1, h1⟩ := ihr
    obtain ⟨f2, h2⟩ := ihk
    exact ⟨max f1 f2 + 1, fun f' h => by
      obtain ⟨k, rfl, hk⟩ := exists_succ_of_le h
      rw [CM.big]; simp only [h1 k (by omega), h2 k (by omega)]⟩

theorem Throws.big {g : Graph} {t : Task} {m : Mem} {e : Err} {m' : Mem} (h : Throws g t m e m') :
    ∃ f, ∀ f', f ≤ f' → big g f' t m = .raised e m' := by
  induction h with
  | hashLeaf hx he | valueLeaf hx he => exact ⟨1, fun f' h => by obtain ⟨k, rfl, _⟩ := exists_succ_of_le h; rw [CM.big]; simp only [hx, he]⟩
  | hashProg hx he _ ih | valueProg hx he _ ih =>
    obtain ⟨f, hf⟩ := ih
    exact ⟨f + 1, fun f' h => by obtain ⟨k, rfl, hk⟩ := exists_succ_of_le h; rw [CM.big]; simp only [hx, he, hf k hk]⟩
  | @hashStore n _ _ x m1 hx he hr hbad =>
    obtain ⟨f, hf⟩ := hr.big
    refine ⟨f + 1, fun f' h => ?_⟩
    obtain ⟨k, rfl, hk⟩ := exists_succ_of_le h
    rw [CM.big]; simp only [hx, he, hf k hk]
    cases hy : m1.hashes.memo n with
    | some _ => simp only
    | none => simp only [hbad hy]
  | @valueStore n _ _ x m1 hx he hr hbad =>
    obtain ⟨f, hf⟩ := hr.big
    refine ⟨f + 1, fun f' h => ?_⟩
    obtain ⟨k, rfl, hk⟩ := exists_succ_of_le h
    rw [CM.big]; simp only [hx, he, hf k hk]
    cases x with
    | val v =>
      cases hy : m1.cache.memo n with
      | some _ => simp only [hy]
      | none => simp only [hy, hbad v rfl hy]
    | hash _ | hout _ _ | node _ | tup _ => rfl
  | progEvict hr hev => exact ⟨1, fun f' h => by obtain ⟨k, rfl, _⟩ := exists_succ_of_le h; rw [CM.big]; simp only [hr, hev]⟩
  | progRaise hr => exact ⟨1, fun f' h => by obtain ⟨k, rfl, _⟩ := exists_succ_of_le h; rw [CM.big]; simp only [hr]⟩
  | progReq hr _ ih =>
    obtain ⟨f, hf⟩ := ih
    exact ⟨f + 1, fun f' h => by obtain ⟨k, rfl, hk⟩ := exists_succ_of_le h; rw [CM.big]; simp only [hr, hf k hk]⟩
  | progCont hr hy _ ih =>
    obtain ⟨f1, h1⟩ := hy.big
    obtain ⟨f2, h2⟩ := ih
    exact ⟨max f1 f2 + 1, fun f' h => by
      obtain ⟨k, rfl, hk⟩ := exists_succ_of_le h
      rw [CM.big]; simp only [hr, h1 k (by omega), h2 k (by omega)]⟩
  | noParent hp hr =>
    exact ⟨1, fun f' h => by obtain ⟨k, rfl, _⟩ := exists_succ_of_le h; rcases hr with rfl | rfl <;> rw [CM.big] <;> simp only [hp]⟩
  | parentHash hp _ ih | parentValue hp _ ih =>
    obtain ⟨f, hf⟩ := ih
    exact ⟨f + 1, fun f' h => by obtain ⟨k, rfl, hk⟩ := exists_succ_of_le h; rw [CM.big]; simp only [hp, hf k hk]⟩
  | parentHashBad hp hr hbad =>
    obtain ⟨f, hf⟩ := hr.big
    refine ⟨f + 1, fun f' h => ?_⟩
    obtain ⟨k, rfl, hk⟩ := exists_succ_of_le h
    -- `simp` selects the second alternative of the `match` on the answer by `hbad`
    rw [CM.big]; simp only [hp, hf k hk]
  | current hr _ ih =>
    obtain ⟨f, hf⟩ := ih
    exact ⟨f + 1, fun f' h => by
      obtain ⟨k, rfl, hk⟩ := exists_succ_of_le h; rcases hr with rfl | rfl <;> rw [CM.big] <;> simp only [hf k hk]⟩
  | currentBad hr hret hbad =>
    obtain ⟨f, hf⟩ := hret.big
    refine ⟨f + 1, fun f' h => ?_⟩
    obtain ⟨k, rfl, hk⟩ := exists_succ_of_le h
    rcases hr with rfl | rfl <;> rw [CM.big] <;> simp only [hf k hk]
  | call hc => exact ⟨1, fun f' h => by obtain ⟨k, rfl, _⟩ := exists_succ_of_le h; rw [CM.big]; simp only [hc]⟩
  | await _ ih | reqsHead _ ih =>
    obtain ⟨f, hf⟩ := ih
    exact ⟨f + 1, fun f' h => by obtain ⟨k, rfl, hk⟩ := exists_succ_of_le h; rw [CM.big]; simp only [hf k hk]⟩
  | reqsTail hy _ ih =>
    obtain ⟨f1, h1⟩ := hy.big
    obtain ⟨f2, h2⟩ := ih
    exact ⟨max f1 f2 + 1, fun f' h => by
      obtain ⟨k, rfl, hk⟩ := exists_succ_of_le h
      rw [CM.big]; simp only [h1 k (by omega), h2 k (by omega)]⟩

end CM
