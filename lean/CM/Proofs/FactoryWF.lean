/-
  CM.Proofs.FactoryWF — the container of every layer the factory accepts is well-formed, so the gluing theorems of
  `connect_bags` apply to it; which names it exposes and which it passes on (`factory_names`).
-/
import CM.Proofs.OptMapM
import CM.Proofs.MkBag
import CM.Proofs.Factory
namespace CM

theorem reversible_wf {inputs outputs : List BNode} {es : List BEdge} {backIn backOut : List BNode} {optNames : List String}
    {fwd back : NameSet} {persistent : List String} {next : Nat} {b : Bag}
    (h : reversible inputs outputs es backIn backOut optNames fwd back persistent next = .ok b)
    (hid : ∀ n, n ∈ inputs ++ outputs ++ edgeNodes es → n.id < next)
    (hp : ∀ x ∈ persistent, x ∈ names outputs ∨ x ∈ names inputs) : b.WF := by
  obtain ⟨b1, opt, h1, _, h2⟩ := reversible_ok h
  have w1 : b1.WF := mkBag_wf h1 hid hp
  exact mkBag_wf h2 w1.ids fun x hx => Or.inl (w1.persOut x (mkBag_persistent h1 ▸ hx))

/-- **What `ReversibleContainer` exposes**: the given outputs and, by rule 3 of `normalize_bag`, a pass-through output for every
input whose name is inherited (or persistent) and not defined; the names still passed on from upstream are the inherited ones that
are neither defined nor consumed. -/
theorem reversible_names {inputs outputs : List BNode} {es : List BEdge} {backIn backOut : List BNode} {optNames : List String}
    {fwd back : NameSet} {persistent : List String} {next : Nat} {b : Bag}
    (h : reversible inputs outputs es backIn backOut optNames fwd back persistent next = .ok b)
    (hid : ∀ n, n ∈ inputs ++ outputs ++ edgeNodes es → n.id < next)
    (hp : ∀ x ∈ persistent, x ∈ names outputs ∨ x ∈ names inputs) :
    (∀ x, x ∈ names b.outputs ↔ x ∈ names outputs ∨
        (x ∈ names inputs ∧ (fwd.mem x = true ∨ x ∈ persistent) ∧ x ∉ names outputs)) ∧
    (∀ x, b.virt.mem x = (fwd.mem x && !(x ∈ names inputs ∧ (fwd.mem x = true ∨ x ∈ persistent) ∧ x ∉ names outputs : Bool))) ∧
    b.persistent = persistent := by
  obtain ⟨b1, opt, h1, _, h2⟩ := reversible_ok h
  have w1 : b1.WF := mkBag_wf h1 hid hp
  obtain ⟨ho1, hv1⟩ := mkBag_names h1
  obtain ⟨ho2, hv2⟩ := mkBag_names h2
  simp only [reversibleRaw2] at ho2 hv2
  -- the first pass leaves nothing for rule 3 to do in the second: no input is virtual, every persistent name is an output
  have hno : ∀ x, ¬ (x ∈ names b1.inputs ∧ (b1.virt.mem x = true ∨ x ∈ persistent) ∧ x ∉ names b1.outputs) := by
    rintro x ⟨hi, hvp, hno⟩
    obtain ⟨n, hn, rfl⟩ := List.mem_map.1 hi
    rcases hvp with hv | hpx
    · rw [w1.virtIn n hn] at hv; cases hv
    · exact hno (w1.persOut _ (mkBag_persistent h1 ▸ hpx))
  refine ⟨fun x => ?_, fun x => ?_, mkBag_persistent h2⟩
  · exact (ho2 x).trans ((or_iff_left (hno x)).trans (ho1 x))
  · rw [hv2 x]
    simp only [hno x, decide_false, Bool.not_false, Bool.and_true]
    exact hv1 x

section
variable {r : RawLayer}

theorem argNode_lt {a : String} {n : BNode} (h : r.argNode a = some n) : n.id < r.layout.next := by
  have hb := layout_bounds r.layout
  unfold RawLayer.argNode at h
  split at h
  · exact nodeAt_lt h hb.params
  · split at h
    · exact nodeAt_lt h hb.outputs
    · exact nodeAt_lt h hb.inputs

theorem factoryEdges_lt {es : List BEdge} (h : r.factoryEdges r.layout = some es) :
    ∀ e ∈ es, e.out.id < r.layout.next ∧ ∀ m ∈ e.ins, m.id < r.layout.next := by
  obtain ⟨consts, params, fields, invs, hconsts, hparams, hfields, hinvs, rfl⟩ := factoryEdges_parts h
  have hb := layout_bounds r.layout
  have hargs : ∀ {f : RawField} {ins : List BNode}, optMapM' r.argNode f.args = some ins → ∀ m ∈ ins, m.id < r.layout.next :=
    fun hins m hm => by
      obtain ⟨a, _, ha⟩ := (mem_optMapM' hins).1 hm
      exact argNode_lt ha
  intro e he
  simp only [List.mem_append, List.mem_flatten] at he
  rcases he with (((he | ⟨pair, hpair, he⟩) | he) | he) | he
  · obtain ⟨i, o, hi, ho, rfl⟩ := mem_keyEdges he
    exact ⟨nodeAt_lt ho hb.outputs, by simpa [identityEdge] using nodeAt_lt hi hb.inputs⟩
  · obtain ⟨c, _, hc⟩ := (mem_optMapM' hconsts).1 hpair
    obtain ⟨p, a, hp, ha, rfl⟩ := constEdges_some hc
    have h1 := nodeAt_lt hp hb.params
    have h2 := nodeAt_lt ha hb.args
    simp only [List.mem_cons, List.not_mem_nil, or_false] at he
    rcases he with rfl | rfl
    · exact ⟨h1, by simpa [identityEdge] using h2⟩
    · exact ⟨h2, fun m hm => absurd hm List.not_mem_nil⟩
  · obtain ⟨f, _, hf⟩ := (mem_optMapM' hparams).1 he
    obtain ⟨p, ins, hp, hins, rfl⟩ := paramEdge_some hf
    exact ⟨nodeAt_lt hp hb.params, hargs hins⟩
  · obtain ⟨f, _, hf⟩ := (mem_optMapM' hfields).1 he
    obtain ⟨o, ins, ho, hins, rfl⟩ := fieldEdge_some hf
    exact ⟨nodeAt_lt ho hb.outputs, hargs hins⟩
  · obtain ⟨f, _, hf⟩ := (mem_optMapM' hinvs).1 he
    obtain ⟨o, ins, ho, hins, rfl⟩ := invEdge_some hf
    refine ⟨nodeAt_lt ho hb.backOut, fun m hm => ?_⟩
    obtain ⟨a, _, ha⟩ := (mem_optMapM' hins).1 hm
    split at ha
    · exact nodeAt_lt ha hb.params
    · exact nodeAt_lt ha hb.backIn

theorem factory_ids {es : List BEdge} (hes : r.factoryEdges r.layout = some es) :
    ∀ n, n ∈ nodesAt 0 r.layout.inputs ++ nodesAt r.layout.oBase r.layout.outputs ++ edgeNodes es → n.id < r.layout.next :=
  have hb := layout_bounds r.layout
  ids_below (fun _ hn => mem_nodesAt_lt hn hb.inputs)
    (fun _ hn => mem_nodesAt_lt hn hb.outputs) (factoryEdges_lt hes)

theorem persistentNames_sub : ∀ x ∈ r.persistentNames, x ∈ r.layout.outputs := by
  intro x hx
  unfold RawLayer.persistentNames at hx
  split at hx
  · rename_i hsrc
    simp only [dedup, List.mem_eraseDups, List.mem_cons, List.mem_map, List.mem_filter] at hx
    simp only [RawLayer.layout, dedup, List.mem_eraseDups, hsrc, if_true, List.mem_map, List.cons_append, List.nil_append,
      List.mem_cons]
    rcases hx with rfl | ⟨f, ⟨hf, _⟩, rfl⟩
    · exact Or.inl rfl
    · exact Or.inr ⟨f, hf, rfl⟩
  · cases hx

theorem factory_persistent (r : RawLayer) : ∀ x ∈ r.persistentNames,
    x ∈ names (nodesAt r.layout.oBase r.layout.outputs) ∨ x ∈ names (nodesAt 0 r.layout.inputs) :=
  fun x hx => .inl (names_nodesAt .. ▸ persistentNames_sub x hx)

/-- **The container of every layer the factory accepts is well-formed** (`Bag.WF`): the hypotheses of the gluing theorem, of
`connect_bags` preserving well-formedness and of the link to the compiled graph hold for it. -/
theorem factory_wf {b : Bag} (h : r.factory = .ok b) : b.WF := by
  obtain ⟨es, _, hes, hrev⟩ := factory_reversible h
  exact reversible_wf hrev (factory_ids hes) (factory_persistent r)

end

/-- **Which names the container of a layer exposes and passes on**, read off its class body. -/
theorem factory_names {r : RawLayer} {b : Bag} (h : r.factory = .ok b) :
    (∀ x, x ∈ names b.outputs ↔ x ∈ r.layout.outputs ∨
        (x ∈ r.layout.inputs ∧ (r.fwdVirt.mem x = true ∨ x ∈ r.persistentNames) ∧ x ∉ r.layout.outputs)) ∧
    (∀ x, b.virt.mem x = (r.fwdVirt.mem x &&
        !(x ∈ r.layout.inputs ∧ (r.fwdVirt.mem x = true ∨ x ∈ r.persistentNames) ∧ x ∉ r.layout.outputs : Bool))) ∧
    b.persistent = r.persistentNames := by
  obtain ⟨es, back, hes, hrev⟩ := factory_reversible h
  have := reversible_names hrev (factory_ids hes) (factory_persistent r)
  simpa only [names_nodesAt] using this

end CM
