/-
  CM.Proofs.PrefixFold — lists built front to back, each element computed from the elements before it: the shape of
  `denFrom` (CM.Model.Denote: the denotations of the nodes) and of `hgFrom` (CM.Model.VM: their static hashes).
-/
namespace CM

/-- `f acc i b` is the element for the `i`-th item `b`, given the elements `acc` for the earlier items -/
def prefixFold {α β : Type} (f : List α → Nat → β → α) : List β → Nat → List α → List α
  | [], _, acc => acc
  | b :: bs, i, acc => prefixFold f bs (i + 1) (acc ++ [f acc i b])

variable {α β : Type} (f : List α → Nat → β → α)

theorem prefixFold_prefix (bs : List β) (i : Nat) (acc : List α) : ∃ t, t.length = bs.length ∧ prefixFold f bs i acc = acc ++ t := by
  induction bs generalizing i acc with
  | nil => exact ⟨[], rfl, (List.append_nil acc).symm⟩
  | cons b bs ih =>
    obtain ⟨t, hl, ht⟩ := ih (i + 1) (acc ++ [f acc i b])
    exact ⟨f acc i b :: t, by rw [List.length_cons, hl, List.length_cons], by rw [prefixFold, ht, List.append_assoc]; rfl⟩

theorem prefixFold_length (bs : List β) (i : Nat) (acc : List α) : (prefixFold f bs i acc).length = acc.length + bs.length := by
  obtain ⟨t, hl, ht⟩ := prefixFold_prefix f bs i acc
  rw [ht, List.length_append, hl]

theorem prefixFold_get (bs : List β) (i : Nat) (acc : List α) (j : Nat) (b : β) (hi : acc.length = i) (h : bs[j]? = some b) :
    (prefixFold f bs i acc)[i + j]? = some (f ((prefixFold f bs i acc).take (i + j)) (i + j) b) := by
  induction bs generalizing i acc j with
  | nil => cases h
  | cons x rest ih =>
    cases j with
    | zero =>
      cases h
      obtain ⟨t, _, ht⟩ := prefixFold_prefix f rest (i + 1) (acc ++ [f acc i b])
      subst hi
      rw [prefixFold, ht, Nat.add_zero, List.append_assoc, List.take_left, List.getElem?_append_right (Nat.le_refl _), Nat.sub_self]
      rfl
    | succ j =>
      have := ih (i + 1) (acc ++ [f acc i x]) j (by rw [List.length_append, hi]; rfl) h
      rwa [Nat.add_right_comm, Nat.add_assoc] at this

end CM
