/-
  CM.Proofs.DecodeG — a static graph hash determines the function of the entry id (C06): `evalG x h` evaluates the
  static hash `h` of a sub-pipeline on the input `x`; on plain graphs, wherever the cache-free evaluation of a node
  yields a value, that value is `evalG x (static hash of the node)`.
-/
import CM.Proofs.All2
import CM.Proofs.DenLemmas
import CM.Proofs.Sound
import CM.Proofs.EdgeSem
import CM.Proofs.Decode
import CM.Proofs.StaticHash
namespace CM

/-- all the values, if none is missing -/
def allSome {α : Type} : List (Option α) → Option (List α)
  | [] => some []
  | none :: _ => none
  | some a :: rest => (allSome rest).map (a :: ·)

/-- `id_to_index[key]` read back from the routing table as it is written into the static hash -/
def lookupTVL : List Val → Val → Option Nat
  | [], _ => none
  | .tup [k, .int i] :: rest, key => if k.pyEq key then some i.toNat else lookupTVL rest key
  | _ :: _, _ => none

/-- `lookupTVL` on the table as it stands in the hash: `switchTableVal` makes it a `.tup` of pairs (`lookupTV_table`) -/
def lookupTV : Val → Val → Option Nat
  | .tup l, key => lookupTVL l key
  | _, _ => none

mutual
  /-- evaluate a static hash on the input `x`.  The leaf `placeholder` (CM.Model.Value; its literal is repeated here and in
  `EdgeK.noPlaceholder`) stands for the input.  The `.custom` cases follow the `evaluate` programs of the three switch edges
  (`EdgeK.evalProg`, CM.Model.Graph) and have to be kept in step with them. -/
  def evalG (x : Val) : NHash → Option Val
    | .leaf v => some (if v == .atom "$placeholder" then x else v)
    | .apply f hs kwn =>
      match allSome (evalGList x hs) with
      | none => none
      | some vs =>
        some (if f = "tuple" ∧ kwn = [] then .tup vs
              else .app f (vs.take (vs.length - kwn.length)) kwn (vs.drop (vs.length - kwn.length)))
    | .graph h => evalG x h
    | .custom m hs =>
      let vs := evalGList x hs
      if m = "connectome.SwitchEdge" then
        match vs with
        | some tv :: pvs =>
          match pvs.getD 0 none with
          | some key => match lookupTV tv key with
            | some idx => pvs.getD (idx + 1) none
            | none => none
          | none => none
        | _ => none
      else if m = "connectome.SwitchBranch" then
        match vs.getD 0 none, vs.getD 1 none with
        | some key, some (.tup [inner, left, right]) =>
          if keyIn key inner || keyIn key left then vs.getD 2 none
          else if keyIn key right then vs.getD 3 none else none
        | _, _ => none
      else if m = "connectome.SwitchMissing" then
        match vs with
        | some (.int idx) :: pvs =>
          match pvs.getD 0 none, pvs.getD 1 none with
          | some key, some (.tup [inner, left, right]) =>
            let this := if idx.toNat == 0 then left else right
            let other := if idx.toNat == 0 then right else left
            if keyIn key inner || keyIn key this then pvs.getD 2 none
            else if keyIn key other then some .none else none
          | _, _ => none
        | _ => none
      else none
  def evalGList (x : Val) : List NHash → List (Option Val)
    | [] => []
    | h :: hs => evalG x h :: evalGList x hs
end

theorem evalGList_eq_map (x : Val) : ∀ hs : List NHash, evalGList x hs = hs.map (evalG x)
  | [] => rfl
  | h :: hs => by simp [evalGList, evalGList_eq_map x hs]

theorem allSome_map_some {α : Type} : ∀ vs : List α, allSome (vs.map some) = some vs
  | [] => rfl
  | v :: vs => by simp [allSome, allSome_map_some vs]

theorem eq_map_some {β : Type} {l : List (Option β)} {vs : List β} (hl : l.length = vs.length)
    (h : ∀ (i : Nat) v, vs[i]? = some v → l.getD i none = some v) : l = vs.map some := by
  refine List.ext_getElem (by rw [hl, List.length_map]) fun i h1 h2 => ?_
  rw [List.length_map] at h2
  have := h i vs[i] (List.getElem?_eq_getElem h2)
  rw [List.getD_eq_getElem?_getD, List.getElem?_eq_getElem h1] at this
  rw [List.getElem_map]; exact this

theorem lookupTVL_table : ∀ (t : List (Val × Nat)) (key : Val),
    lookupTVL (t.map fun (k, i) => Val.tup [k, Val.int i]) key = tableLookup t key
  | [], key => rfl
  | (k, i) :: rest, key => by
    simp only [List.map_cons, lookupTVL, tableLookup, Int.toNat_natCast, lookupTVL_table rest key]

theorem lookupTV_table (t : List (Val × Nat)) (key : Val) : lookupTV (switchTableVal t) key = tableLookup t key :=
  lookupTVL_table t key

def EdgeK.noPlaceholder : EdgeK → Bool
  | .constant v => !(v == .atom "$placeholder")
  | .byValue i | .impure i => i.noPlaceholder
  | _ => true

/-- plain graphs all of whose used inputs are bound to `x` and none of whose constants is the placeholder object -/
structure PlainG (g : Graph) (d : DenCfg) (x : Val) : Prop extends Plain g d where
  bound : ∀ (n : Nat), g.usedInputs.contains n = true → d.env (g.node n).name = some x
  consts : ∀ (n : Nat) (nd : Node) (e : EdgeK), g.nodes[n]? = some nd → nd.edge = some e → e.noPlaceholder = true
  /-- what `@hash_by_value` wraps is itself plain, and a pure function -/
  innerPlain : ∀ (n : Nat) (nd : Node) (i : EdgeK), g.nodes[n]? = some nd → nd.edge = some (.byValue i) → i.plain = true
  innerPure : ∀ (n : Nat) (nd : Node) (i : EdgeK), g.nodes[n]? = some nd → nd.edge = some (.byValue i) →
    ∀ f kwn sil, i = .function f kwn sil → ∀ pos kwv, d.call n f pos kwn kwv = .app f pos kwn kwv

/-! ### the step: one node against its parents, for any handlers -/

theorem evalG_hashGraph (x : Val) (e : EdgeK) (hs : e.simple = true) (hp : e.plain = true) (hnp : e.noPlaceholder = true)
    (l : List NHash) (vs : List Val) (hl : evalGList x l = vs.map some) (h : NHash) (hg : e.hashGraph l = .ok h) :
    evalG x h = some (e.evalStatic .app vs) := by
  cases e with
  | function f kwn sil =>
    simp only [EdgeK.plain, Bool.and_eq_true, List.isEmpty_iff, bne_iff_ne, ne_eq] at hp
    obtain ⟨rfl, hft⟩ := hp
    cases hg
    simp only [EdgeK.evalStatic, silence_nil, evalG, hl, allSome_map_some, hft, false_and, ↓reduceIte]
  | identity =>
    cases hg
    match l, vs, hl with
    | [], [], _ => rfl
    | _ :: _, _ :: _, hl => exact (List.cons.inj hl).1
  | constant v =>
    cases hg
    simp only [EdgeK.noPlaceholder, Bool.not_eq_true'] at hnp
    simp only [evalG, hnp, Bool.false_eq_true, ↓reduceIte, EdgeK.evalStatic]
  | product => cases hg; simp only [evalG, hl, allSome_map_some, and_self, ↓reduceIte, EdgeK.evalStatic]
  | checkIds => cases hp
  | _ => cases hs

section
variable (x : Val) {c : Ctx} {a : Nat} (l : List NHash)
  (hlen : l.length = a) (hsel : ∀ i vi, c.pv i = .ok vi → (evalGList x l).getD i none = some vi)
include hlen hsel

/-- the simple edge classes, and what `@hash_by_value` wraps -/
theorem simple_static (e : EdgeK) (hs : e.simple = true) (hp : e.plain = true) (hnp : e.noPlaceholder = true)
    (hpure : ∀ f kwn sil, e = .function f kwn sil → ∀ pos kwv, c.call f pos kwn kwv = .app f pos kwn kwv)
    {h : NHash} (hg : e.hashGraph l = .ok h) {v : Val} (hval : interp c (e.evalProg a) = .ok (.val v)) :
    evalG x h = some v := by
  obtain ⟨vs, hall, hy⟩ := (evalProg_simple hs (by rintro rfl; cases hp)).1 hval
  rw [evalStatic_pure hpure] at hy; cases hy
  obtain ⟨hvl, hget⟩ := all2_range.1 hall
  refine evalG_hashGraph x e hs hp hnp l vs (eq_map_some ?_ fun i v hv => hsel i v (hget i v hv)) h hg
  rw [evalGList_eq_map, List.length_map, hlen, hvl]

/-- the other plain edge classes read the hash `hd` or the payload `pd` of their own node -/
theorem payload_static (e : EdgeK) (hns : e.simple = false) (hp : e.plain = true) (hnp : e.noPlaceholder = true)
    (hinner : ∀ i, e = .byValue i → i.plain = true ∧
      ∀ f kwn sil, i = .function f kwn sil → ∀ pos kwv, c.call f pos kwn kwv = .app f pos kwn kwv)
    {h : NHash} (hg : e.hashGraph l = .ok h) (hd : NHash) (pd : Val) (hx : interp c (e.hashProg a) = .ok (.hout hd pd))
    (hcur : c.cur = .ok (hd, pd)) {v : Val} (hval : interp c (e.evalProg a) = .ok (.val v)) : evalG x h = some v := by
  -- the first parent's value is what its static hash, the first of `l`, evaluates to
  have first : ∀ v, c.pv 0 = .ok v → evalG x (l.getD 0 default) = some v := by
    intro v hv
    have := hsel 0 v hv
    cases l with
    | nil => cases this
    | cons b _ => exact this
  cases e with
  | cache s =>
    cases hg
    rw [sem_cache s hcur] at hval
    exact first v (map_val_ok hval)
  | barrier =>
    obtain ⟨hv, _, hev⟩ := sem_barrier hx hcur
    cases hg; cases hev.symm.trans hval
    exact first _ hv
  | byValue i =>
    obtain ⟨hi, _, hev⟩ := sem_byValue hx hcur
    cases hev.symm.trans hval
    exact simple_static x l hlen hsel i hp (hinner i rfl).1 hnp (hinner i rfl).2 hg hi
  | impure i => cases hg
  | switch t =>
    obtain ⟨key, idx, hk, hlk, _, hev⟩ := sem_switch hx hcur
    cases hg
    rw [hev] at hval
    have hT : (switchTableVal t == Val.atom "$placeholder") = false := rfl
    simp only [evalG, evalGList, hT, Bool.false_eq_true, ↓reduceIte, hsel 0 key hk, lookupTV_table, hlk,
      hsel (idx + 1) v (map_val_ok hval)]
  | switchBranch =>
    obtain ⟨key, inner, left, right, i, hk, hm, hi, _, hev⟩ := sem_switchBranch hx hcur
    cases hg
    rw [hev] at hval
    simp only [evalG, String.reduceEq, ↓reduceIte, hsel 0 key hk, hsel 1 _ hm]
    split at hi
    · next hc => cases hi; rw [if_pos hc]; exact hsel 2 v (map_val_ok hval)
    · next hc =>
      rw [if_neg hc]
      split at hi
      · next hc => cases hi; rw [if_pos hc]; exact hsel 3 v (map_val_ok hval)
      · cases hi
  | switchMissing idx =>
    obtain ⟨key, inner, left, right, hk, hm, hsem⟩ := sem_switchMissing hx hcur
    cases hg
    have hI : (Val.int (idx : Int) == Val.atom "$placeholder") = false := rfl
    simp only [evalG, evalGList, String.reduceEq, ↓reduceIte, hI, Bool.false_eq_true, hsel 0 key hk, hsel 1 _ hm, Int.toNat_natCast]
    obtain ⟨hA, _, hev⟩ | ⟨hA, hB, _, hev⟩ := hsem
    · rw [hev] at hval
      rw [if_pos hA]; exact hsel 2 v (map_val_ok hval)
    · cases hev.symm.trans hval
      rw [if_neg (by rw [hA]; exact Bool.false_ne_true), if_pos hB]
  | _ => cases hns

end

theorem hg_inner (g : Graph) (ok : GraphBase g) (n : Nat) (hn : g.nodes[n]? = some (g.node n))
    (hu : g.usedInputs.contains n = false) (e : EdgeK) (he : (g.node n).edge = some e) (h : NHash) (hh : hg g n = .ok h) :
    ∃ l, l.length = (g.parents n).length ∧
      (∀ (i : Nat) p hp, (g.parents n)[i]? = some p → l[i]? = some hp → hg g p = .ok hp) ∧ e.hashGraph l = .ok h := by
  rw [hg_eq g n _ hn, hgNode, hu, if_neg Bool.false_ne_true] at hh
  simp only [he] at hh
  split at hh
  · cases hh
  · next l hm =>
    obtain ⟨hlen, hget⟩ := all2_iff_getElem?.1 (all2_of_mapM_ok hm)
    refine ⟨l, hlen.symm, fun i p hp hpi hli => ?_, hh⟩
    -- every parent precedes `n`, so the prefix shows its static hash
    rw [← hg_take_getD g n p (ok.topo n _ hn p (List.mem_of_getElem? hpi)), List.getD_eq_getElem?_getD]
    exact hget i p hp hpi hli

/-- **A static graph hash determines the function of the entry id** (C06).  On a plain graph whose used inputs are
bound to `x`: wherever a node has a value, it is `evalG x` of the node's static hash. -/
theorem static_value (g : Graph) (d : DenCfg) (x : Val) (pl : PlainG g d x) : ∀ (n : Nat) (h : NHash) (v : Val),
    hg g n = .ok h → (den g d n).v = .ok v → evalG x h = some v := by
  intro n
  induction n using Nat.strongRecOn with
  | _ n ih =>
    intro h v hh hv
    obtain hd | ⟨hn, ⟨hu, v', hv', hd⟩ | ⟨hu, e, he⟩⟩ := den_cases g d n
    · rw [hd] at hv; cases hv
    · -- a used input: the placeholder, bound to `x`
      rw [hd] at hv; cases hv
      rw [pl.bound n hu] at hv'; cases hv'
      rw [hg_eq g n _ hn, hgNode, hu] at hh; cases hh
      simp [evalG, placeholder, BEq.beq, Val.beq]
    · obtain ⟨l, hlen, hl, hg⟩ := hg_inner g pl.toGraphBase n hn hu e he h hh
      have hplain := pl.plain n _ e hn he
      have hnp := pl.consts n _ e hn he
      rw [den_edge d pl.toGraphBase he] at hv
      simp only [EdgeK.den, List.length_map] at hv
      have hval := bind_asVal_ok hv
      -- the value of the `i`-th parent is what its static hash, the `i`-th of `l`, evaluates to
      have hsel : ∀ cur i vi, (argCtx (d.call n) ((g.parents n).map (den g d)) cur).pv i = .ok vi →
          (evalGList x l).getD i none = some vi := by
        intro cur i vi hpi
        simp only [argCtx, List.getElem?_map] at hpi
        cases hq : (g.parents n)[i]? with
        | none => rw [hq] at hpi; cases hpi
        | some q =>
          rw [hq] at hpi
          have hi : i < l.length := hlen ▸ (List.getElem?_eq_some_iff.mp hq).1
          rw [evalGList_eq_map, List.getD_eq_getElem?_getD, List.getElem?_map, List.getElem?_eq_getElem hi]
          exact ih q (pl.topo n _ hn q (List.mem_of_getElem? hq)) _ vi (hl i q _ hq (List.getElem?_eq_getElem hi)) hpi
      cases hs : e.simple with
      | true =>
        exact simple_static x l hlen (hsel _) e hs hplain hnp (fun f kwn sil hf => pl.pure n _ f kwn sil hn (hf ▸ he)) hg hval
      | false =>
        obtain ⟨hd, pd, hcur⟩ := cur_of_eval hs hval
        exact payload_static x l hlen (hsel _) e hs hplain hnp
          (fun i hi => ⟨pl.innerPlain n _ i hn (hi ▸ he), pl.innerPure n _ i hn (hi ▸ he)⟩) hg hd pd
          (hashProg_plain hplain hcur _) hcur hval

end CM
