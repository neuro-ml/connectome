/-
  CM.Proofs.OnceC — stage 3 of `vm_correct`: every returning task keeps the counter invariant of
  CM.Proofs.Count and the bound on the call log of CM.Proofs.Once (`Returns.inv`), on graphs that may contain cache
  edges: cache operations change neither the scratch tables nor the call log.
-/
import CM.Proofs.Once
import CM.Proofs.CacheSound
namespace CM

theorem Graph.hb_add_vb_le_one (g : Graph) (ok : GraphOKC g) (j : Nat) : g.hb j + g.vb j ≤ 1 := by
  unfold Graph.hb Graph.vb
  cases he : (g.node j).edge with
  | none => simp
  | some e => exact EdgeK.calls_le_one e (ok.edge_wf he)

/-- **Counters and call log together.**  A returning task keeps the counter invariant; the ghost flags it ends with serve every
budget of user calls the task is started with. -/
theorem Returns.inv {g : Graph} (ok : GraphOKC g) {t : Task} {m : Mem} {x : Item} {m' : Mem} (h : Returns g t m x m') :
    ∀ (hp : Bool) (G : Ghost), CInv g m G none none → PreCC g G hp t →
      ∃ G', PostC g hp m G m' G' t ∧ ∀ b B K, PreL g m G hp b B K t → PostL g m m' G' hp B K t := by
  have ht := topo_of_base g ok.toGraphBase
  induction h with
  | hashHit => exact fun hp G hi _ => ⟨G, ⟨hi, Frame.refl .., KeepV.refl ..⟩, fun _ _ _ hl => ⟨hl.inv, hl.bud, fun _ _ => rfl⟩⟩
  | @hashRun n m e x m1 h hx he _ _ hset ih =>
    intro hp G hi hact
    have hwf := ok.edge_wf he
    have hrun := hi.runningH ht hact hx
    obtain ⟨G1, ⟨hi1, fr1, hf1, kv1, _, _⟩, pl1⟩ := ih true G hi ⟨hrun, fun _ => hashProg_noCur e _ hwf⟩
    refine ⟨G1, ⟨hi1.storeHash hset, fr1.storeHash hset, (kv1 rfl).d, (kv1 rfl).m⟩, fun b B K hl => ?_⟩
    obtain ⟨inv1, bud1, frame1⟩ := pl1 _ B K (hl.hashProg hrun.flag he (hashProg_callsLe e _ hwf))
    refine ⟨inv1, ?_, frame1⟩
    simp only [rest, Task.node, pend, ↓reduceIte, pendH_done g G1 n hf1] at bud1 ⊢
    exact bud1
  | valueHit => exact fun hp G hi _ => ⟨G, ⟨hi, Frame.refl ..⟩, fun _ _ _ hl => ⟨hl.inv, hl.bud, fun _ _ => rfl⟩⟩
  | @valueRun n m e v m1 c hx he _ _ hset ih =>
    intro hp G hi hact
    have hwf := ok.edge_wf he
    have hrun := hi.runningV ht hact hx
    obtain ⟨G1, ⟨hi1, fr1, hf1, _, _, _⟩, pl1⟩ := ih false G hi ⟨hrun, nofun⟩
    refine ⟨G1, ⟨hi1.storeVal hset, fr1.storeVal hset⟩, fun b B K hl => ?_⟩
    obtain ⟨inv1, bud1, frame1⟩ := pl1 _ B K (hl.evalProg hrun.flag he (evalProg_callsLe e _ hwf))
    refine ⟨inv1, ?_, frame1⟩
    simp only [rest, Task.node, pend, Bool.false_eq_true, ↓reduceIte, pendV_done g G1 n hf1] at bud1 ⊢
    show calls m1 n + _ ≤ K
    omega
  | @progRet n p m x w h c hr hev =>
    intro hp G hi ⟨hrun, _⟩
    obtain ⟨h', c', hev', hpost⟩ := complete_step g ht m G hp n hi hrun
    cases hev.symm.trans hev'
    refine ⟨G.setFlag hp n, hpost w, fun b B K hl => ?_⟩
    have hcalls := calls_of_log (m' := { hashes := h, cache := c, world := w }) (m := m) (runEffs_log hr)
    refine ⟨fun j hj => ?_, ?_, fun j _ => hcalls j⟩
    · have hjn : j ≠ n := by simp only [Task.node] at hj; omega
      rw [cap_frame g G _ j (setFlag_dH_ne G hp n j hjn) (setFlag_dV_ne G hp n j hjn), hcalls]
      exact hl.inv j hj
    · have hpe : pend g (G.setFlag hp n) hp n = pend g G hp n := by
        cases hp
        · exact pend_frame g G _ false n (by simp [Ghost.setFlag])
        · rfl
      have := hl.bud
      simp only [rest, cost, Task.node, hpe, hcalls] at this ⊢
      omega
  | @progReq n p m r k w y m1 x m2 hr _ _ ihr ihk =>
    intro hp G hi hpre
    have hrun := hpre.1
    have hnc' := hpre.progReq hr
    obtain ⟨G1, ⟨hi1, fr1, kp1⟩, pl1⟩ := ihr hp G (hi.world w) ⟨hrun, fun h => (hnc' h).1⟩
    have fr1' := fr1.of_world
    have kp1' := kp1.of_world
    obtain ⟨G2, ⟨hi2, fr2, hf2, kv2, hm2, hr2⟩, pl2⟩ := ihk hp G1 hi1 ⟨hrun.step ht fr1' kp1', fun h => (hnc' h).2 y⟩
    refine ⟨G2, ⟨hi2, fr1'.trans fr2, hf2, fun h => kp1'.1.trans (kv2 h), ?_, ?_⟩, fun b B K hl => ?_⟩
    · cases hp
      · exact hm2.trans kp1'.1.m
      · exact hm2.trans (kp1'.2 rfl).m
    · rw [hr2]; exact remaining_frame g ht G G1 n fr1'.dH fr1'.dV n (Nat.le_refl n)
    · have hlog := runEffs_log hr
      obtain ⟨hkb, hl1⟩ := hl.progReq hr
      have p1 := pl1 _ _ K hl1
      have p2 := pl2 _ B K (p1.progCont (hkb y))
      exact ⟨p2.inv, p2.bud, fun j hj => ((p2.frame j hj).trans (p1.frame j hj)).trans (calls_of_log hlog j)⟩
  | @parentHash n i m p h pl m1 hpi _ ih =>
    intro hp G hi ⟨hrun, _⟩
    obtain ⟨hlt, hpa⟩ := hrun.parent ht hpi
    obtain ⟨G1, ⟨hi1, fr1, kv1⟩, pl1⟩ := ih hp G hi hpa
    refine ⟨G1, ⟨hi1, fr1.mono (by omega), fr1.keep hlt hp⟩, fun b B K hl => ?_⟩
    obtain ⟨inv1, bud1, frame1⟩ := pl1 0 0 _ (hl.inv.parentHash hlt)
    exact hl.afterParent rfl hlt fr1 frame1 inv1
      (cap_after_hash g G G1 p (calls m p) (calls m1 p) kv1.d (hl.inv p hlt) (by simpa [rest, Task.node] using bud1))
  | @parentValue n i m p x m1 hpi _ ih =>
    intro hp G hi ⟨hrun, _⟩
    obtain ⟨hlt, hpa⟩ := hrun.parent ht hpi
    obtain ⟨G1, ⟨hi1, fr1⟩, pl1⟩ := ih hp G hi hpa
    refine ⟨G1, ⟨hi1, fr1.mono (by omega), fr1.keep hlt hp⟩, fun b B K hl => ?_⟩
    obtain ⟨inv1, bud1, frame1⟩ := pl1 0 0 _ (hl.inv.parentValue hlt)
    exact hl.afterParent rfl hlt fr1 frame1 inv1
      (cap_after_value g G G1 p (calls m p) (calls m1 p) (hl.inv p hlt) (by simpa [rest, Task.node] using bud1))
  | @currentHash _ _ _ _ _ _ ih | @payload _ _ _ _ _ _ ih =>
    intro hp G hi hpre
    obtain rfl := hpre.current (by simp)
    obtain ⟨G1, ⟨hi1, fr1, kv1⟩, pl1⟩ := ih false G hi hpre.1.active
    refine ⟨G1, ⟨hi1, fr1, kv1, nofun⟩, fun b B K hl => ?_⟩
    obtain ⟨inv1, bud1, frame1⟩ := pl1 0 B K (hl.current (by simp))
    exact ⟨inv1, by simpa [rest, Task.node, pend] using bud1, frame1⟩
  | @await n rs m x m1 _ ih =>
    intro hp G hi ⟨hrun, hnc⟩
    obtain ⟨G1, pc1, pl1⟩ := ih hp G hi ⟨hrun, fun h => noCurList_reverse rs (by simpa [Req.noCur] using hnc h)⟩
    refine ⟨G1, pc1, fun b B K hl => ?_⟩
    obtain ⟨inv1, bud1, frame1⟩ := pl1 0 B K hl.await
    exact ⟨inv1, bud1, frame1⟩
  | @call n fn pos kwn kwv m v w hc =>
    intro hp G hi _
    refine ⟨G, ⟨hi.world w, (Frame.refl ..).of_world, (Keep.refl ..).of_world⟩,
      fun b B K hl => ⟨fun j hj => ?_, ?_, fun j hj => ?_⟩⟩
    · simp only [Task.node] at hj
      rw [calls_call hc j, if_neg (by omega)]
      exact hl.inv j hj
    · have := hl.bud
      simp only [rest, cost, Task.node, Req.ncalls] at this ⊢
      rw [calls_call hc n]
      simp only [↓reduceIte]
      omega
    · simp only [Task.node] at hj
      rw [calls_call hc j, if_neg (by omega)]
      rfl
  | reqsNil =>
    exact fun hp G hi _ => ⟨G, ⟨hi, Frame.refl .., Keep.refl ..⟩,
      fun _ _ _ hl => ⟨hl.inv, by simpa [cost, rest, Req.ncallsList] using hl.bud, fun _ _ => rfl⟩⟩
  | @reqsCons n r rest' acc m y m1 x m2 _ _ ihr ihk =>
    intro hp G hi hpre
    have hrun := hpre.1
    have hnc' := hpre.reqsCons
    obtain ⟨G1, ⟨hi1, fr1, kp1⟩, pl1⟩ := ihr hp G hi ⟨hrun, fun h => (hnc' h).1⟩
    obtain ⟨G2, ⟨hi2, fr2, kp2⟩, pl2⟩ := ihk hp G1 hi1 ⟨hrun.step ht fr1 kp1, fun h => (hnc' h).2⟩
    refine ⟨G2, ⟨hi2, fr1.trans fr2, kp1.trans kp2⟩, fun b B K hl => ?_⟩
    have p1 := pl1 0 _ K hl.reqsHead
    have p2 := pl2 0 B K p1.reqsTail
    exact ⟨p2.inv, p2.bud, fun j hj => (p2.frame j hj).trans (p1.frame j hj)⟩

/-- **Counters and call log together** (stage 3), for `big`. -/
theorem big_inv_c (g : Graph) (ok : GraphOKC g) : ∀ (f : Nat) (t : Task) (hp : Bool) (m : Mem) (G : Ghost) (x : Item) (m' : Mem)
    (b B K : Nat), CInv g m G none none → PreCC g G hp t → PreL g m G hp b B K t → big g f t m = .ok x m' →
    ∃ G', PostC g hp m G m' G' t ∧ PostL g m m' G' hp B K t := by
  intro f t hp m G x m' b B K hi hpre hl hb
  obtain ⟨G', pc, pl⟩ := (Returns.of_big hb).inv ok hp G hi hpre
  exact ⟨G', pc, pl b B K hl⟩

end CM
