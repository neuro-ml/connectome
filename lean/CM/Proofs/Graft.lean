/-
  CM.Proofs.Graft — a container with a single input, embedded in a bigger one that feeds that input from a node of its own: every node
  computes its old term with the input replaced by what the feeding node computes (`den_graft`).  `Merge` feeds each part from the common
  key by an identity edge (`den_embed`, here), `CheckIds` feeds the old key from the guarded key (`den_checkIds`, in `CM.Proofs.CheckIds`).
-/
import CM.Proofs.BagSem
namespace CM

mutual
  /-- `t.subst x s`: the term `t` with the input `x` replaced by the term `s` (`substL`: in each term of a list) -/
  def BTerm.subst : BTerm → String → BTerm → BTerm
    | .inp y, x, s => if y == x then s else .inp y
    | .missing y, _, _ => .missing y
    | .node e args, x, s => .node e (BTerm.substL args x s)
  def BTerm.substL : List BTerm → String → BTerm → List BTerm
    | [], _, _ => []
    | t :: ts, x, s => t.subst x s :: BTerm.substL ts x s
end

mutual
  /-- the term mentions no input at all, so that substituting for an input leaves it as it is (`subst_closed`); not to be confused with
  `AgreeOn.closed`, a region closed under predecessors -/
  def BTerm.closed : BTerm → Prop
    | .inp _ => False
    | .missing _ => True
    | .node _ args => BTerm.closedL args
  def BTerm.closedL : List BTerm → Prop
    | [] => True
    | t :: ts => t.closed ∧ BTerm.closedL ts
end

theorem substL_eq_map (x : String) (s : BTerm) : ∀ ts : List BTerm, BTerm.substL ts x s = ts.map (·.subst x s)
  | [] => rfl
  | _ :: ts => by simp only [BTerm.substL, List.map_cons, substL_eq_map x s ts]

theorem closedL_mem : ∀ {ts : List BTerm}, BTerm.closedL ts → ∀ t ∈ ts, t.closed
  | [], _, t, ht => by cases ht
  | y :: ys, h, t, ht => by
    simp only [BTerm.closedL] at h
    rcases List.mem_cons.1 ht with rfl | ht
    · exact h.1
    · exact closedL_mem h.2 t ht

theorem subst_closed (x : String) (s : BTerm) : ∀ t : BTerm, t.closed → t.subst x s = t
  | .inp _, h => by simp [BTerm.closed] at h
  | .missing _, _ => rfl
  | .node e args, h => by
    simp only [BTerm.subst, BTerm.node.injEq, true_and]
    exact substL_closed x s args (by simpa [BTerm.closed] using h)
where
  substL_closed (x : String) (s : BTerm) : ∀ ts : List BTerm, BTerm.closedL ts → BTerm.substL ts x s = ts
    | [], _ => rfl
    | t :: ts, h => by
      simp only [BTerm.closedL] at h
      simp only [BTerm.substL, subst_closed x s t h.1, substL_closed x s ts h.2]

theorem subst_self (x : String) : ∀ t : BTerm, t.subst x (.inp x) = t
  | .inp y => by
    simp only [BTerm.subst]
    split
    · rename_i h; rw [beq_iff_eq.1 h]
    · rfl
  | .missing _ => rfl
  | .node e args => by
    simp only [BTerm.subst, BTerm.node.injEq, true_and]
    exact substL_self x args
where
  substL_self (x : String) : ∀ ts : List BTerm, BTerm.substL ts x (.inp x) = ts
    | [] => rfl
    | t :: ts => by simp only [BTerm.substL, subst_self x t, substL_self x ts]

/-- **Grafting.**  `R` is the region of `b` that `q` occupies: closed under the parents of `q`'s edges, free of inputs of `b`, and
without edges of `b` other than `q`'s, except into `i`.  What `i` computes in `b` need be known only if the term mentions the input at all. -/
theorem den_graft {q b : Bag} {i : BNode} (R : BNode → Prop) (G : BTerm)
    (hqi : q.inputs = [i]) (hnb : ∀ m, R m → m ∉ b.inputs) (hsub : ∀ e ∈ q.edges, e ∈ b.edges)
    (hin : ∀ e ∈ b.edges, R e.out → e.out ≠ i → e ∈ q.edges) (hcl : ∀ e ∈ q.edges, ∀ p ∈ e.ins, R p)
    {n : BNode} {t : BTerm} (h : BDen q n t) (hR : R n) (hG : ¬ t.closed → R i → BDen b i G) :
    BDen b n (t.subst i.name G) := by
  induction h with
  | @input n hi =>
    rw [hqi, List.mem_singleton] at hi
    subst hi
    simp only [BTerm.subst, beq_self_eq_true, if_true]
    exact hG (fun h => h) hR
  | @missing n hni hno =>
    refine .missing (hnb n hR) fun e he ho => hno e (hin e he (ho ▸ hR) fun hi => hni ?_) ho
    rw [hqi, ← hi, ho]
    exact List.mem_singleton.2 rfl
  | @ident n p t e hni he ho hk hi _ ih =>
    exact .ident e (hnb n hR) (hsub e he) ho hk hi (ih (hcl e he p (by rw [hi]; exact List.mem_singleton.2 rfl)) hG)
  | @edge n ts e hni he ho hk hlen _ ih =>
    simp only [BTerm.subst, substL_eq_map]
    refine .edge e (hnb n hR) (hsub e he) ho hk (by rw [List.length_map]; exact hlen) fun p hp => ?_
    rw [List.zip_map_right] at hp
    obtain ⟨p0, hp0, rfl⟩ := List.mem_map.1 hp
    exact ih p0 hp0 (hcl e he p0.1 (List.of_mem_zip hp0).1) fun hnc => hG fun hc => hnc (closedL_mem hc p0.2 (List.of_mem_zip hp0).2)

/-- **Embedding a part into a bigger bag**: `i` is fed by an identity edge from the input `inp` of the same name, so every node of the
region computes in `b` what it computes in `q`. -/
theorem den_embed {q b : Bag} {i inp : BNode} (R : BNode → Prop)
    (hqi : q.inputs = [i]) (hbi : b.inputs = [inp]) (hname : inp.name = i.name)
    (hst : identityEdge inp i ∈ b.edges) (hsub : ∀ e ∈ q.edges, e ∈ b.edges)
    (hin : ∀ e ∈ b.edges, R e.out → e ∈ q.edges ∨ e = identityEdge inp i)
    (hcl : ∀ e ∈ q.edges, ∀ p ∈ e.ins, R p) (hninp : ¬ R inp) (hleaf : ∀ e ∈ q.edges, e.out ≠ i)
    {n : BNode} {t : BTerm} (h : BDen q n t) : R n → BDen b n t := by
  intro hR
  have hnb : ∀ m, R m → m ∉ b.inputs := fun m hm hmem => hninp (List.mem_singleton.1 (hbi ▸ hmem) ▸ hm)
  have := den_graft R (.inp i.name) hqi hnb hsub
    (fun e he hR ho => (hin e he hR).resolve_right fun h => ho (h ▸ rfl)) hcl h hR
    (fun _ hRi => .ident (identityEdge inp i) (hnb i hRi) hst rfl rfl rfl (hname ▸ .input (hbi ▸ List.mem_singleton.2 rfl)))
  rwa [subst_self] at this

end CM
