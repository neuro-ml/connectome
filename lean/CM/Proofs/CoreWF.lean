/-
  CM.Proofs.CoreWF — well-formed bags; every bag `EdgesBag(...)` (`normalize_bag`) accepts is well-formed.
-/
import CM.Proofs.BagChecks
namespace CM

/-- The invariant of the bags the library builds, as a proposition (`Bag.wfB` is the executable form, `wfB_sound`): what `normalize_bag`
checks and what rule 3 establishes (`core_wf`), kept by `connect_bags` (`connected_wf`).  It is the hypothesis of the theorems about connecting. -/
structure Bag.WF (b : Bag) : Prop where
  /-- every identity is below the counter, so that a copy shifted by `b.next` is disjoint from `b` -/
  ids : ∀ n ∈ b.nodes3, n.id < b.next
  /-- rule 2: no two EDGES with one output node (not about `b.outputs`) -/
  outs : OutsNodup b.edges
  /-- no edge leads into an input -/
  inLeaf : ∀ n ∈ b.inputs, ∀ e ∈ b.edges, e.out ≠ n
  /-- a name determines the input.  Weaker than `(names b.inputs).Nodup`: a node listed twice is allowed -/
  inNames : ∀ n₁ ∈ b.inputs, ∀ n₂ ∈ b.inputs, n₁.name = n₂.name → n₁ = n₂
  /-- likewise: `(names b.outputs).Nodup` does not follow from `WF`.  Where it is needed it is a hypothesis of its own (the C10 theorems), or comes
  from `Checked.outDup` (the arguments of `mkBag`) or from a context having been reversed on the outputs (`reverse_bag_ok`) -/
  outNames : ∀ n₁ ∈ b.outputs, ∀ n₂ ∈ b.outputs, n₁.name = n₂.name → n₁ = n₂
  /-- rule 2a: a name that is still virtual is no output ... -/
  virtOut : ∀ n ∈ b.outputs, b.virt.mem n.name = false
  /-- ... and, after rule 3, no input -/
  virtIn : ∀ n ∈ b.inputs, b.virt.mem n.name = false
  /-- after rule 3 every persistent name is exposed -/
  persOut : ∀ x ∈ b.persistent, x ∈ names b.outputs

theorem Bag.WF.single {b : Bag} (h : b.WF) : SingleIncoming b.edges := outsNodup_single h.outs

theorem Bag.WF.virt_names {b : Bag} (h : b.WF) {x : String} (hx : x ∈ names b.outputs) : b.virt.mem x = false := by
  obtain ⟨o, ho, rfl⟩ := mem_names.1 hx
  exact h.virtOut o ho

/-- **`normalize_bag` establishes well-formedness**: if the arguments of `EdgesBag(...)` use identities below the counter and
every persistent name is the name of an input or of an output, the bag that passes the checks is well-formed. -/
theorem core_wf (r : RawBag) (hc : Checked r r.core)
    (hid : ∀ n, n ∈ r.inputs ++ r.outputs ++ edgeNodes r.edges → n.id < r.next)
    (hp : ∀ x ∈ r.persistent, x ∈ names r.outputs ∨ x ∈ names r.inputs) : r.core.WF := by
  have h2a : ∀ x ∈ names r.outputs, r.virt.mem x = false := List.forall_mem_map.2 hc.rule2a
  refine { ids := fun n hn => ?_, outs := hc.outs, inLeaf := hc.leaves, inNames := names_inj_of_nodup hc.inDup,
           outNames := names_inj_of_nodup ?_, virtOut := fun n hn => ?_, virtIn := fun n hn => ?_, persOut := fun x hx => ?_ }
  · rcases r.core_nodes3 hn with h | h
    · exact Nat.lt_of_lt_of_le (hid n h) (r.core_next ▸ Nat.le_add_right ..)
    · exact h.2
  · -- the given names are distinct, the new ones are names of distinct inputs that are no output names
    rw [r.names_core_outputs]
    refine List.nodup_append.2 ⟨hc.outDup, (List.filter_sublist.map _).nodup hc.inDup, ?_⟩
    rintro x hx _ hy rfl
    exact ((r.mem_names_rule3 x).1 hy).2.2 hx
  · rw [r.core_virt]
    rcases List.mem_append.1 (r.names_core_outputs ▸ mem_names.2 ⟨n, hn, rfl⟩) with h | h
    · rw [h2a _ h, Bool.false_and]
    · rw [decide_eq_true h, Bool.not_true, Bool.and_false]
  · rw [r.core_virt]
    cases hv : r.virt.mem n.name with
    | false => rfl
    | true =>
      -- a virtual input is no output name (rule 2a): rule 3 gave it an identity edge
      have := (r.mem_names_rule3 n.name).2 ⟨mem_names.2 ⟨n, hn, rfl⟩, .inl hv, fun ho => by simp [h2a _ ho] at hv⟩
      rw [decide_eq_true this, Bool.not_true, Bool.and_false]
  · rw [r.names_core_outputs, List.mem_append, RawBag.mem_names_rule3]
    by_cases hxo : x ∈ names r.outputs
    · exact .inl hxo
    · exact .inr ⟨(hp x hx).resolve_left hxo, .inr hx, hxo⟩

end CM
