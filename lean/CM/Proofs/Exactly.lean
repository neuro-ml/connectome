/-
  CM.Proofs.Exactly — the converse of `only needed` for cache-free graphs: a task that returns has executed (it is in the log) every
  user function that the cache-free evaluation of what it asked for demands (`Returns.exact`), given that whatever was memoised
  before had been fully evaluated (`MemoDone`; `init_memoDone`: the initial memory).  Together with `call_once` and `call_needed`:
  exactly the needed functions, exactly once.
-/
import CM.Proofs.Correct
namespace CM

/-- a call on behalf of node `n` is in the log -/
def Executed (m : Mem) (n : Nat) : Prop := ∃ r ∈ m.world.log, r.node = n

/-- the program issues a user call along the cache-free path -/
def progHasCall (c : Ctx) : Prog → Bool
  | .ret _ => false
  | .raise _ => false
  | .req r k => decide (0 < r.ncalls) || (match interpReq c r with | .ok x => progHasCall c (k x) | .error _ => false)
  | .eff (.get _ _) k => progHasCall c (k none)
  | .eff (.set _ _ _) k => progHasCall c (k none)

/-- the generator `(hp, n)` issues a user call in the cache-free evaluation -/
def CallsOf (g : Graph) (d : DenCfg) (hp : Bool) (n : Nat) : Prop :=
  ∃ e, (g.node n).edge = some e ∧ progHasCall (ctxOf g d n) (genProg g n e hp) = true

/-- every call that evaluating generator `(hp, n)` demands has been executed -/
def Done (g : Graph) (d : DenCfg) (m : Mem) (hp : Bool) (n : Nat) : Prop :=
  ∀ hp' n', Need g d (hp, n) hp' n' → CallsOf g d hp' n' → Executed m n'

theorem Executed.mono {m m' : Mem} {n : Nat} (h : ∃ pre, m'.world.log = pre ++ m.world.log) (he : Executed m n) : Executed m' n := by
  obtain ⟨pre, hp⟩ := h
  obtain ⟨r, hr, hn⟩ := he
  exact ⟨r, by rw [hp]; exact List.mem_append_right _ hr, hn⟩

theorem Done.mono {g : Graph} {d : DenCfg} {m m' : Mem} {hp : Bool} {n : Nat} (h : ∃ pre, m'.world.log = pre ++ m.world.log)
    (hd : Done g d m hp n) : Done g d m' hp n := fun hp' n' hn hc => (hd hp' n' hn hc).mono h

theorem done_of_deps (g : Graph) (d : DenCfg) (m : Mem) (hp : Bool) (n : Nat)
    (hown : CallsOf g d hp n → Executed m n)
    (hdeps : ∀ e q hp1 n1, (g.node n).edge = some e → q ∈ progDeps (ctxOf g d n) (genProg g n e hp) →
      depTarget g n q = some (hp1, n1) → Done g d m hp1 n1) : Done g d m hp n := by
  intro hp' n' hneed hc
  rcases need_unfold g d (hp, n) hp' n' hneed with heq | ⟨e, q, hp1, n1, he, hq, ht, hn⟩
  · cases heq; exact hown hc
  · exact hdeps e q hp1 n1 he hq ht hp' n' hn hc

/-- whatever is memoised has been fully evaluated -/
structure MemoDone (g : Graph) (d : DenCfg) (m : Mem) : Prop where
  h : ∀ k x, m.hashes.memo k = some x → Done g d m true k
  v : ∀ k x, m.cache.memo k = some x → Done g d m false k

/-- every generator the requests `qs` of node `n` address is done -/
def DepsDone (g : Graph) (d : DenCfg) (m : Mem) (n : Nat) (qs : List Dep) : Prop :=
  ∀ q ∈ qs, ∀ hp1 n1, depTarget g n q = some (hp1, n1) → Done g d m hp1 n1

/-- what a returning task establishes: what it demanded is done, and if it called, the call is logged -/
def PostX (g : Graph) (d : DenCfg) (m' : Mem) : Task → Prop
  | .hash n => Done g d m' true n
  | .value n => Done g d m' false n
  | .prog n p => DepsDone g d m' n (progDeps (ctxOf g d n) p) ∧ (progHasCall (ctxOf g d n) p = true → Executed m' n)
  | .req n r => DepsDone g d m' n (reqDeps r) ∧ (0 < r.ncalls → Executed m' n)
  | .reqs n rs _ => DepsDone g d m' n (reqsDeps rs) ∧ (0 < Req.ncallsList rs → Executed m' n)

theorem MemoDone.world {g : Graph} {d : DenCfg} {m m' : Mem} (hh : m'.hashes = m.hashes) (hc : m'.cache = m.cache)
    (hl : ∃ pre, m'.world.log = pre ++ m.world.log) (h : MemoDone g d m) : MemoDone g d m' :=
  ⟨fun k x hk => (h.h k x (by rw [← hh]; exact hk)).mono hl, fun k x hk => (h.v k x (by rw [← hc]; exact hk)).mono hl⟩

theorem DepsDone.mono {g : Graph} {d : DenCfg} {m m' : Mem} {n : Nat} {qs : List Dep} (hl : ∃ pre, m'.world.log = pre ++ m.world.log)
    (h : DepsDone g d m n qs) : DepsDone g d m' n qs := fun q hq hp1 n1 ht => (h q hq hp1 n1 ht).mono hl

/-- the generator `(hp, n)` has run its program: what the program asked for is done, and its own call is logged -/
theorem Done.ofProg {g : Graph} {d : DenCfg} {m : Mem} {hp : Bool} {n : Nat} {e : EdgeK} (he : (g.node n).edge = some e)
    (h : PostX g d m (.prog n (genProg g n e hp))) : Done g d m hp n := by
  refine done_of_deps g d m hp n ?_ ?_
  · rintro ⟨e', he', hc⟩
    cases he.symm.trans he'
    exact h.2 hc
  · intro e' q hp1 n1 he' hq' ht
    cases he.symm.trans he'
    exact h.1 q hq' hp1 n1 ht

theorem MemoDone.setHash {g : Graph} {d : DenCfg} {m : Mem} {n : Nat} {x : Item} {h : Scratch Item} (hmd : MemoDone g d m)
    (hd : Done g d m true n) (hset : m.hashes.set n x = some h) : MemoDone g d { m with hashes := h } :=
  ⟨Scratch.set_memo (P := fun k _ => Done g d m true k) hset hmd.h hd, hmd.v⟩

theorem MemoDone.setVal {g : Graph} {d : DenCfg} {m : Mem} {n : Nat} {v : Val} {c : Scratch Val} (hmd : MemoDone g d m)
    (hd : Done g d m false n) (hset : m.cache.set n v = some c) : MemoDone g d { m with cache := c } :=
  ⟨hmd.h, Scratch.set_memo (P := fun k _ => Done g d m false k) hset hmd.v hd⟩

theorem DepsDone.single {g : Graph} {d : DenCfg} {m : Mem} {n : Nat} {q : Dep} {hp1 n1} (ht : depTarget g n q = some (hp1, n1))
    (hd : Done g d m hp1 n1) : DepsDone g d m n [q] := by
  intro q' hq' hp2 n2 ht'
  cases List.mem_singleton.1 hq'
  cases ht.symm.trans ht'
  exact hd

/-- **Everything a returning task demands has run** (cache-free graphs). -/
theorem Returns.exact {g : Graph} {d : DenCfg} (ok : GraphOK g) {t : Task} {m : Mem} {x : Item} {m' : Mem} (h : Returns g t m x m') :
    MemSound g d m → TaskOK t → MemoDone g d m → MemoDone g d m' ∧ PostX g d m' t := by
  induction h with
  | hashHit hx => exact fun _ _ hmd => ⟨hmd, hmd.h _ _ hx⟩
  | hashRun _ he _ _ hset ih =>
    intro hs _ hmd
    obtain ⟨hmd1, hpost⟩ := ih hs (hashProg_noEff _ _ (.inl (ok.edge_wf he))) hmd
    have hd : Done g d _ true _ := .ofProg he hpost
    exact ⟨hmd1.setHash hd hset, hd⟩
  | valueHit hx => exact fun _ _ hmd => ⟨hmd, hmd.v _ _ hx⟩
  | valueRun _ he _ _ hset ih =>
    intro hs _ hmd
    obtain ⟨hmd1, hpost⟩ := ih hs (evalProg_noEff _ _ (ok.edge_wf he)) hmd
    have hd : Done g d _ false _ := .ofProg he hpost
    exact ⟨hmd1.setVal hd hset, hd⟩
  | @progRet n p m x w _ _ hr hev =>
    intro _ hne hmd
    cases (runEffs_noEff hne m.world).symm.trans hr
    obtain ⟨i1, i2⟩ := evictAll_memo hev
    exact ⟨⟨fun k y hk => hmd.h k y (i1 k y hk), fun k y hk => hmd.v k y (i2 k y hk)⟩, nofun, nofun⟩
  | @progReq n p m r k w y m1 x m2 hr hy hk ihr ihk =>
    intro hs hne hmd
    cases (runEffs_noEff hne m.world).symm.trans hr
    have hne' : ∀ x, (k x).NoEff := by cases hne with | req _ _ h => exact h
    obtain ⟨hmd1, hd1, hc1⟩ := ihr hs trivial hmd
    obtain ⟨hs1, hr1⟩ := hy.sound_free ok hs trivial
    obtain ⟨hmd2, hd2, hc2⟩ := ihk hs1 (hne' y) hmd1
    have hl := hk.world.2
    refine ⟨hmd2, fun q hq' hp1 n1 ht => ?_, fun hc => ?_⟩
    · simp only [progDeps, show interpReq _ r = _ from hr1, List.mem_append] at hq'
      rcases hq' with h1 | h2
      · exact (hd1 q h1 hp1 n1 ht).mono hl
      · exact hd2 q h2 hp1 n1 ht
    · simp only [progHasCall, show interpReq _ r = _ from hr1, Bool.or_eq_true, decide_eq_true_eq] at hc
      rcases hc with h1 | h2
      · exact (hc1 h1).mono hl
      · exact hc2 h2
  | parentHash hp _ ih =>
    intro hs _ hmd
    obtain ⟨hmd1, hd1⟩ := ih hs trivial hmd
    exact ⟨hmd1, .single (by simp [depTarget, hp]) hd1, by simp [Req.ncalls]⟩
  | parentValue hp _ ih =>
    intro hs _ hmd
    obtain ⟨hmd1, hd1⟩ := ih hs trivial hmd
    exact ⟨hmd1, .single (by simp [depTarget, hp]) hd1, by simp [Req.ncalls]⟩
  | currentHash _ ih | payload _ ih =>
    intro hs _ hmd
    obtain ⟨hmd1, hd1⟩ := ih hs trivial hmd
    exact ⟨hmd1, .single rfl hd1, by simp [Req.ncalls]⟩
  | @await _ rs _ _ _ _ ih =>
    intro hs _ hmd
    obtain ⟨hmd1, hd1, hc1⟩ := ih hs trivial hmd
    exact ⟨hmd1, fun q hq' => hd1 q ((mem_reqsDeps_reverse rs q).mpr hq'),
      fun hc => hc1 (by rw [ncallsList_reverse]; exact hc)⟩
  | @call n fn pos kwn kwv m _ w hc =>
    intro _ _ hmd
    obtain rfl := call_world hc
    exact ⟨MemoDone.world (m := m) rfl rfl ⟨[⟨n, fn, pos, kwn, kwv⟩], rfl⟩ hmd, nofun, fun _ => ⟨⟨n, fn, pos, kwn, kwv⟩, by simp, rfl⟩⟩
  | reqsNil => exact fun _ _ hmd => ⟨hmd, nofun, by simp [Req.ncallsList]⟩
  | @reqsCons _ r _ _ _ _ _ _ _ hy hk ihr ihk =>
    intro hs _ hmd
    obtain ⟨hmd1, hd1, hc1⟩ := ihr hs trivial hmd
    obtain ⟨hmd2, hd2, hc2⟩ := ihk (hy.sound_free ok hs trivial).1 trivial hmd1
    have hl := hk.world.2
    refine ⟨hmd2, fun q hq' hp1 n1 ht => ?_, fun hc => ?_⟩
    · simp only [reqsDeps, List.mem_append] at hq'
      rcases hq' with h1 | h2
      · exact (hd1 q h1 hp1 n1 ht).mono hl
      · exact hd2 q h2 hp1 n1 ht
    · simp only [Req.ncallsList] at hc
      by_cases h1 : 0 < r.ncalls
      · exact (hc1 h1).mono hl
      · exact hc2 (by omega)

theorem init_memoDone (g : Graph) (d : DenCfg) (ok : GraphOK g) (env : String → Option Val) (w : World) (hc : CallOK g env) :
    MemoDone g d (g.initMem env w) := by
  have hleaf : ∀ k, g.usedInputs.contains k = true → ∀ hp, Done g d (g.initMem env w) hp k := by
    intro k hu hp
    have hedge := ok.inputsLeaves k _ (getElem?_node (hc.inRange k hu)) hu
    exact done_of_deps g d _ hp k (fun ⟨e, he, _⟩ => by rw [hedge] at he; cases he) fun e _ _ _ he => by rw [hedge] at he; cases he
  constructor
  · intro k x hk
    simp only [Graph.initMem, Graph.initScratch] at hk
    split at hk
    · next hu => exact hleaf k hu true
    · cases hk
  · intro k x hk
    simp only [Graph.initMem, Graph.initScratch] at hk
    split at hk
    · next hu => exact hleaf k hu false
    · cases hk

end CM
