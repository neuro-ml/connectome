/-
  CM.Proofs.EdgeSem — the request programs of the edge classes (CM.Model.Graph) run against arbitrary pure handlers
  `c : Ctx`, each class once; then `EdgeK.den`, what an edge denotes over the denotations of its arguments: the form the
  denotation of a graph node takes (`den_edge`) and that of a term (CM.Proofs.TermDen).
-/
import CM.Proofs.Sound
import CM.Proofs.All2
import CM.Proofs.Basics
namespace CM

theorem map_val_ok {r : Except Err Val} {v : Val} (h : r.map Item.val = .ok (.val v)) : r = .ok v := by
  obtain ⟨w, rfl, hw⟩ := map_eq_ok h
  cases hw; rfl

theorem interp_bind (c : Ctx) (f : Item → Prog) (p : Prog) :
    interp c (p.bind f) = (interp c p).bind fun x => interp c (f x) := by
  induction p with
  | ret _ | raise _ => rfl
  | req r k ih =>
    simp only [Prog.bind, interp]
    cases interpReq c r with
    | error e => rfl
    | ok x => exact ih x
  | eff op k ih => cases op <;> exact ih none

theorem interp_req_inv {c : Ctx} {r : Req} {k : Item → Prog} {y : Item} {α : Type} {get : Except Err α} {inj : α → Item}
    (hreq : interpReq c r = get.map inj) (h : interp c (.req r k) = .ok y) :
    ∃ a, get = .ok a ∧ interp c (k (inj a)) = .ok y := by
  rw [interp, hreq] at h
  cases get with
  | error e => cases h
  | ok a => exact ⟨a, rfl, h⟩

theorem interp_parentValue {c : Ctx} {i : Nat} {k : Item → Prog} {y : Item} (h : interp c (.req (.parentValue i) k) = .ok y) :
    ∃ v, c.pv i = .ok v ∧ interp c (k (.val v)) = .ok y :=
  interp_req_inv rfl h

theorem interp_parentHash {c : Ctx} {i : Nat} {k : Item → Prog} {y : Item} (h : interp c (.req (.parentHash i) k) = .ok y) :
    ∃ x, c.ph i = .ok x ∧ interp c (k (.hash x)) = .ok y :=
  interp_req_inv rfl h

theorem interp_payload {c : Ctx} {h : NHash} {p : Val} (hcur : c.cur = .ok (h, p)) (k : Item → Prog) :
    interp c (.req .payload k) = interp c (k (.val p)) := by
  simp only [interp, interpReq, hcur, Except.map]

theorem interp_req_ret (c : Ctx) (r : Req) : interp c (.req r .ret) = interpReq c r := by
  rw [interp]
  cases interpReq c r <;> rfl

theorem asHashes_map_hash : ∀ hs : List NHash, asHashes (hs.map Item.hash) = some hs
  | [] => rfl
  | h :: hs => by simp [asHashes, asHashes_map_hash hs]

theorem asVals_map_val : ∀ vs : List Val, asVals (vs.map Item.val) = some vs
  | [] => rfl
  | v :: vs => by simp [asVals, asVals_map_val vs]

/-! Awaiting the requests `mk i` for the positions `i` of a list `l`, each answered by `inj` of `get i`. -/

section
variable (c : Ctx) {α : Type} (mk : Nat → Req) (get : Nat → Except Err α) (inj : α → Item)
  (hreq : ∀ i, interpReq c (mk i) = (get i).map inj)
include hreq

theorem interpReqs_map {l : List Nat} {as : List α} (h : All2 (fun i a => get i = .ok a) l as) :
    interpReqs c (l.map mk) = .ok (as.map inj) := by
  induction h with
  | nil => rfl
  | cons h _ ih => simp only [List.map_cons, interpReqs, ih, hreq, h, Except.map]

theorem interpReqs_map_inv {l : List Nat} {xs : List Item} (h : interpReqs c (l.map mk) = .ok xs) :
    ∃ as, All2 (fun i a => get i = .ok a) l as ∧ xs = as.map inj := by
  induction l generalizing xs with
  | nil => cases h; exact ⟨[], .nil, rfl⟩
  | cons i l ih =>
    simp only [List.map_cons, interpReqs, hreq] at h
    cases hr : interpReqs c (l.map mk) with
    | error e => rw [hr] at h; cases h
    | ok ys =>
      obtain ⟨as, hall, rfl⟩ := ih hr
      cases hg : get i with
      | error e => rw [hr, hg] at h; cases h
      | ok a => rw [hr, hg] at h; cases h; exact ⟨a :: as, .cons hg hall, rfl⟩

theorem interp_await_inv {l : List Nat} {k : Item → Prog} {y : Item} (h : interp c (.req (.await (l.map mk)) k) = .ok y) :
    ∃ as, All2 (fun i a => get i = .ok a) l as ∧ interp c (k (.tup (as.map inj))) = .ok y := by
  obtain ⟨xs, hr, hk⟩ := interp_req_inv (inj := .tup) rfl h
  obtain ⟨as, hall, rfl⟩ := interpReqs_map_inv c mk get inj hreq hr
  exact ⟨as, hall, hk⟩

end

theorem interp_staticHash {c : Ctx} {a : Nat} {mk : List NHash → Prog} {x : Item} (h : interp c (staticHash a mk) = .ok x) :
    ∃ hs, All2 (fun i h => c.ph i = .ok h) (List.range a) hs ∧ interp c (mk hs) = .ok x := by
  obtain ⟨hs, hall, hk⟩ := interp_await_inv c .parentHash c.ph .hash (fun _ => rfl) h
  simp only [asHashes_map_hash] at hk
  exact ⟨hs, hall, hk⟩

theorem interp_staticEval_ok {c : Ctx} {a : Nat} {f : List Val → Prog} {y : Item} :
    interp c (staticEval a f) = .ok y ↔ ∃ vs, All2 (fun i v => c.pv i = .ok v) (List.range a) vs ∧ interp c (f vs) = .ok y := by
  constructor
  · intro h
    obtain ⟨vs, hall, hk⟩ := interp_await_inv c .parentValue c.pv .val (fun _ => rfl) h
    simp only [asVals_map_val] at hk
    exact ⟨vs, hall, hk⟩
  · rintro ⟨vs, hall, h⟩
    simp only [staticEval, interp, interpReq, interpReqs_map c .parentValue c.pv .val (fun _ => rfl) hall, Except.map, asVals_map_val, h]

/-! ### what the programs of the edge classes denote -/

/-- `_evaluate` of the simple edge classes (`FunctionEdge`, `IdentityEdge`, `ConstantEdge`, `ProductEdge`) on the values of
the parents; `call` applies the user function -/
def EdgeK.evalStatic (call : String → List Val → List String → List Val → Val) : EdgeK → List Val → Val
  | .function f kwn _, vs => call f (vs.take (vs.length - kwn.length)) kwn (vs.drop (vs.length - kwn.length))
  | .identity, vs => vs.getD 0 .none
  | .constant v, _ => v
  | .product, vs => .tup vs
  | _, _ => .none

theorem evalStatic_pure {call : String → List Val → List String → List Val → Val} {e : EdgeK}
    (hpure : ∀ f kwn sil, e = .function f kwn sil → ∀ pos kwv, call f pos kwn kwv = .app f pos kwn kwv) (vs : List Val) :
    e.evalStatic call vs = e.evalStatic .app vs := by
  cases e with
  | function f kwn sil => exact hpure f kwn sil rfl _ _
  | _ => rfl

theorem evalProg_simple {c : Ctx} {e : EdgeK} {a : Nat} (hs : e.simple = true) (hne : e ≠ .checkIds) {y : Item} :
    interp c (e.evalProg a) = .ok y ↔
      ∃ vs, All2 (fun i v => c.pv i = .ok v) (List.range a) vs ∧ y = .val (e.evalStatic c.call vs) := by
  obtain ⟨f, hf, hfv⟩ : ∃ f, e.evalProg a = staticEval a f ∧ ∀ vs, interp c (f vs) = .ok (.val (e.evalStatic c.call vs)) := by
    cases e with
    | function _ _ _ | identity | constant _ | product => exact ⟨_, rfl, fun _ => rfl⟩
    | checkIds => exact absurd rfl hne
    | _ => cases hs
  rw [hf, interp_staticEval_ok]
  refine exists_congr fun vs => and_congr_right fun _ => ?_
  rw [hfv]
  exact ⟨fun h => (Except.ok.inj h).symm, fun h => h ▸ rfl⟩

theorem hashProg_static {c : Ctx} {e : EdgeK} {a : Nat} {h : NHash} {p : Val} (he : e.simple = true ∨ ∃ s, e = .cache s)
    (hx : interp c (e.hashProg a) = .ok (.hout h p)) :
    ∃ hs, All2 (fun i h => c.ph i = .ok h) (List.range a) hs ∧ e.hashGraph hs = .ok h := by
  cases e with
  | function _ _ _ | identity | constant _ | product | checkIds | cache _ =>
    obtain ⟨hs, hall, hmk⟩ := interp_staticHash hx
    cases hmk
    exact ⟨hs, hall, rfl⟩
  | _ => obtain he | ⟨_, he⟩ := he <;> cases he

/-- `identity` and `cache`: `compute_hash` returns the first parent's hash (`hs.getD 0 default`, a default when there is no parent:
whence `Plain.arity`).  `checkIds` has the same program but is never plain. -/
def EdgeK.passThrough : EdgeK → Bool
  | .identity | .cache _ => true
  | _ => false

/-- at arity 1, the arity every container gives these edges -/
theorem hashProg_passThrough (c : Ctx) {e : EdgeK} (he : e.passThrough = true) :
    interp c (e.hashProg 1) = (c.ph 0).map fun h => .hout h .none := by
  cases e with
  | identity | cache _ =>
    simp only [EdgeK.hashProg, staticHash, interp, interpReq, List.range, List.range.loop, List.map, interpReqs]
    cases c.ph 0 <;> rfl
  | _ => cases he

theorem interp_identity_hash (c : Ctx) :
    (interp c (EdgeK.identity.hashProg 1)).bind Item.asHout = (c.ph 0).map fun h => (h, Val.none) := by
  rw [hashProg_passThrough c rfl]
  cases c.ph 0 <;> rfl

theorem evalProg_identity (c : Ctx) : interp c (EdgeK.identity.evalProg 1) = (c.pv 0).map .val := by
  simp only [EdgeK.evalProg, staticEval, interp, interpReq, List.range, List.range.loop, List.map, interpReqs]
  cases c.pv 0 <;> rfl

/-- every class that is not simple begins `evaluate` by asking for the hash or the payload of its own node -/
theorem evalProg_cur_error {c : Ctx} {e : EdgeK} (a : Nat) (hns : e.simple = false) {err : Err} (hc : c.cur = .error err) :
    interp c (e.evalProg a) = .error err := by
  cases e with
  | function _ _ _ | identity | constant _ | product | checkIds => cases hns
  | _ => simp only [EdgeK.evalProg, interp, interpReq, hc, Except.map]

theorem cur_of_eval {c : Ctx} {e : EdgeK} {a : Nat} {y : Item} (hns : e.simple = false) (h : interp c (e.evalProg a) = .ok y) :
    ∃ hd pd, c.cur = .ok (hd, pd) := by
  cases hc : c.cur with
  | ok x => exact ⟨x.1, x.2, rfl⟩
  | error err => rw [evalProg_cur_error a hns hc] at h; cases h

/-! The edges that are not simple, one by one: a node with the hash `h` and the payload `p` (`hx`, and `hcur` for
`evaluate`, which asks for them) — where the hash comes from and what the value is. -/

section
variable {c : Ctx} {a : Nat} {h : NHash} {p : Val}

/-- `CacheEdge.evaluate` with every lookup a miss -/
theorem sem_cache (s : Nat) {x : NHash × Val} (hcur : c.cur = .ok x) :
    interp c ((EdgeK.cache s).evalProg a) = (c.pv 0).map .val := by
  simp only [EdgeK.evalProg, interp, interpReq, hcur, Except.map]
  cases c.pv 0 <;> rfl

theorem sem_barrier (hx : interp c (EdgeK.barrier.hashProg a) = .ok (.hout h p)) (hcur : c.cur = .ok (h, p)) :
    c.pv 0 = .ok p ∧ h = .leaf p ∧ interp c (EdgeK.barrier.evalProg a) = .ok (.val p) := by
  obtain ⟨v, hv, hx⟩ := interp_parentValue hx
  cases hx
  exact ⟨hv, rfl, interp_payload hcur _⟩

/-- `@hash_by_value` (and `@impure`, whose programs are the same) -/
theorem sem_byValue {i : EdgeK} (hx : interp c ((EdgeK.byValue i).hashProg a) = .ok (.hout h p)) (hcur : c.cur = .ok (h, p)) :
    interp c (i.evalProg a) = .ok (.val p) ∧ h = .leaf p ∧ interp c ((EdgeK.byValue i).evalProg a) = .ok (.val p) := by
  simp only [EdgeK.hashProg, interp_bind] at hx
  obtain ⟨y, hi, hx⟩ := bind_eq_ok.1 hx
  cases y with
  | val v => cases hx; exact ⟨hi, rfl, interp_payload hcur _⟩
  | _ => cases hx

theorem hashProg_switch (c : Ctx) (t : List (Val × Nat)) (a : Nat) :
    interp c ((EdgeK.switch t).hashProg a) = (c.pv 0).bind fun key =>
      match tableLookup t key with
      | none => .error .valueError
      | some idx => (c.ph (idx + 1)).map fun h => .hout h (.int idx) := by
  simp only [EdgeK.hashProg, interp, interpReq]
  cases c.pv 0 with
  | error e => rfl
  | ok key =>
    simp only [Except.map, Except.bind]
    cases tableLookup t key with
    | none => rfl
    | some idx => simp only [interp, interpReq]; cases c.ph (idx + 1) <;> rfl

theorem evalProg_switch {t : List (Val × Nat)} {idx : Nat} (hcur : c.cur = .ok (h, .int idx)) :
    interp c ((EdgeK.switch t).evalProg a) = (c.pv (idx + 1)).map .val :=
  (interp_payload hcur _).trans (interp_req_ret c (.parentValue (idx + 1)))

theorem sem_switch {t : List (Val × Nat)} (hx : interp c ((EdgeK.switch t).hashProg a) = .ok (.hout h p))
    (hcur : c.cur = .ok (h, p)) :
    ∃ key idx, c.pv 0 = .ok key ∧ tableLookup t key = some idx ∧ c.ph (idx + 1) = .ok h ∧
      interp c ((EdgeK.switch t).evalProg a) = (c.pv (idx + 1)).map .val := by
  rw [hashProg_switch] at hx
  obtain ⟨key, hk, hx⟩ := bind_eq_ok.1 hx
  cases hlk : tableLookup t key with
  | none => rw [hlk] at hx; cases hx
  | some idx =>
    rw [hlk] at hx
    obtain ⟨h', hph, hh⟩ := map_eq_ok hx
    cases hh
    exact ⟨key, idx, hk, hlk, hph, evalProg_switch hcur⟩

/-- the two `Join` markers await the key and the `(inner, left, right)` mapping -/
theorem interp_await_key_mapping {k : Val → Val → Val → Val → Prog} {y : Item}
    (hx : interp c (.req (.await [.parentValue 0, .parentValue 1]) fun
      | .tup [.val key, .val (.tup [inner, left, right])] => k key inner left right
      | _ => .raise .internal) = .ok y) :
    ∃ key inner left right, c.pv 0 = .ok key ∧ c.pv 1 = .ok (.tup [inner, left, right]) ∧
      interp c (k key inner left right) = .ok y := by
  obtain ⟨_, hall, hk⟩ := interp_await_inv (l := [0, 1]) c .parentValue c.pv .val (fun _ => rfl) hx
  cases hall with | cons h0 hall => cases hall with | cons h1 hall =>
  cases hall
  split at hk
  · next heq => cases heq; exact ⟨_, _, _, _, h0, h1, hk⟩
  · cases hk

/-- `SwitchBranch` (Join): the side on which the key is found is parent 2 or 3; hash and value are that parent's -/
theorem sem_switchBranch (hx : interp c (EdgeK.switchBranch.hashProg a) = .ok (.hout h p)) (hcur : c.cur = .ok (h, p)) :
    ∃ key inner left right i, c.pv 0 = .ok key ∧ c.pv 1 = .ok (.tup [inner, left, right]) ∧
      (if keyIn key inner || keyIn key left then some 2 else if keyIn key right then some 3 else none) = some i ∧
      c.ph i = .ok h ∧ interp c (EdgeK.switchBranch.evalProg a) = (c.pv i).map .val := by
  obtain ⟨key, inner, left, right, h0, h1, hx⟩ := interp_await_key_mapping hx
  dsimp only at hx
  split at hx
  · cases hx
  · next i hi =>
    obtain ⟨h', hph, hx⟩ := interp_parentHash hx
    cases hx
    exact ⟨key, inner, left, right, i, h0, h1, hi, hph, (interp_payload hcur _).trans (interp_req_ret c (.parentValue i))⟩

/-- `SwitchMissing` (Join): parent 2 where the key is on this side, `None` where it is only on the other -/
theorem sem_switchMissing {idx : Nat} (hx : interp c ((EdgeK.switchMissing idx).hashProg a) = .ok (.hout h p))
    (hcur : c.cur = .ok (h, p)) :
    ∃ key inner left right, c.pv 0 = .ok key ∧ c.pv 1 = .ok (.tup [inner, left, right]) ∧
      ((keyIn key inner || keyIn key (if idx == 0 then left else right)) = true ∧ c.ph 2 = .ok h ∧
         interp c ((EdgeK.switchMissing idx).evalProg a) = (c.pv 2).map .val ∨
       (keyIn key inner || keyIn key (if idx == 0 then left else right)) = false ∧
         keyIn key (if idx == 0 then right else left) = true ∧ h = .leaf .none ∧
         interp c ((EdgeK.switchMissing idx).evalProg a) = .ok (.val .none)) := by
  obtain ⟨key, inner, left, right, h0, h1, hx⟩ := interp_await_key_mapping hx
  refine ⟨key, inner, left, right, h0, h1, ?_⟩
  dsimp only at hx
  -- `split` would take the inner `if idx == 0` first
  by_cases hA : (keyIn key inner || keyIn key (if idx == 0 then left else right)) = true
  · rw [if_pos hA] at hx
    obtain ⟨h', hph, hx⟩ := interp_parentHash hx
    cases hx
    exact .inl ⟨hA, hph, (interp_payload hcur _).trans (interp_req_ret c (.parentValue 2))⟩
  · rw [if_neg hA] at hx
    by_cases hB : keyIn key (if idx == 0 then right else left) = true
    · rw [if_pos hB] at hx
      cases hx
      exact .inr ⟨Bool.eq_false_iff.2 hA, hB, rfl, interp_payload hcur _⟩
    · rw [if_neg hB] at hx; cases hx

end

/-! ### what an edge denotes over the denotations of its arguments -/

/-- the handlers of an edge whose arguments denote `ds` -/
def argCtx (call : String → List Val → List String → List Val → Val) (ds : List Den) (cur : Except Err (NHash × Val)) : Ctx :=
  { ph := fun j => match ds[j]? with
      | some x => x.h.map (·.1)
      | none => .error .internal
    pv := fun j => match ds[j]? with
      | some x => x.v
      | none => .error .internal
    cur := cur
    call := call }

/-- the hash program run without a current hash, then the evaluation program run with that hash -/
def EdgeK.den (e : EdgeK) (call : String → List Val → List String → List Val → Val) (ds : List Den) : Den :=
  let h := (interp (argCtx call ds (.error .internal)) (e.hashProg ds.length)).bind Item.asHout
  { h := h, v := (interp (argCtx call ds h) (e.evalProg ds.length)).bind Item.asVal }

theorem den_edge {g : Graph} (d : DenCfg) (ok : GraphBase g) {n : Nat} {e : EdgeK} (he : (g.node n).edge = some e) :
    den g d n = e.den (d.call n) ((g.parents n).map (den g d)) := by
  have hc : ∀ cur, { ctxOf g d n with cur := cur } = argCtx (d.call n) ((g.parents n).map (den g d)) cur := by
    intro cur
    simp only [ctxOf, argCtx, List.getElem?_map]
    congr 1 <;> funext j <;> cases (g.parents n)[j]? <;> rfl
  obtain ⟨hh, hv⟩ := den_inner g d ok n e he
  rw [hc] at hh
  rw [show ctxOf g d n = { ctxOf g d n with cur := (den g d n).h } from rfl, hc] at hv
  simp only [EdgeK.den, List.length_map]
  rw [← hh, ← hv]

end CM
