/-
  CM.Proofs.Merge — what the fields of a merged container compute: the switch over the parts' own terms.
  The proofs work on `raw.core` directly (`mkBag_ok`, then `RawBag.core_edges_sub`, `core_edge_inv`, `core_outputs_sub`) rather
  than through the `mkBag_*` lemmas of `MkBag`: they need the edges of the result characterised in both directions.
-/
import CM.Model.Merge
import CM.Proofs.Basics
import CM.Proofs.BagStruct
import CM.Proofs.BagChecks
import CM.Proofs.CoreWF
import CM.Proofs.BagShift
import CM.Proofs.Graft
namespace CM

/-- the range of identities of the `k`-th frozen part -/
def partRange (parts0 : List Bag) (base k : Nat) : Nat × Nat :=
  let off := base + ((parts0.take k).map (·.next)).sum
  (off, off + (parts0.getD k default).next)

/-- where the `k`-th frozen part starts: the sum of the counters of the parts before it -/
def offOf (parts0 : List Bag) (k : Nat) : Nat := ((parts0.take k).map (·.next)).sum

theorem freezeParts_eq : ∀ (ps : List Bag) (base : Nat), freezeParts ps base = ps.mapIdx fun k p => p.shift (base + offOf ps k)
  | [], _ => rfl
  | p :: ps, base => by
    rw [freezeParts, freezeParts_eq ps, List.mapIdx_cons]
    simp only [offOf, List.take_zero, List.map_nil, List.sum_nil, Nat.add_zero, List.take_succ_cons, List.map_cons, List.sum_cons,
      Nat.add_assoc]

theorem frozen_get (parts0 : List Bag) (k : Nat) (hk : k < parts0.length) :
    (freezeParts parts0 0)[k]? = some (parts0[k].shift (offOf parts0 k)) := by
  rw [freezeParts_eq, List.getElem?_mapIdx, List.getElem?_eq_getElem hk, Nat.zero_add]; rfl

theorem mem_frozen {parts0 : List Bag} {q : Bag} :
    q ∈ freezeParts parts0 0 ↔ ∃ k, ∃ hk : k < parts0.length, q = parts0[k].shift (offOf parts0 k) := by
  simp only [freezeParts_eq, Nat.zero_add, List.mem_mapIdx, eq_comm]

theorem partsNext_eq : ∀ (parts0 : List Bag) (base : Nat), partsNext parts0 base = base + (parts0.map (·.next)).sum
  | [], base => by simp [partsNext]
  | p :: ps, base => by
    simp only [partsNext, List.map_cons, List.sum_cons]
    rw [partsNext_eq ps]; omega

theorem off_succ (parts0 : List Bag) {k : Nat} (hk : k < parts0.length) : offOf parts0 (k + 1) = offOf parts0 k + parts0[k].next := by
  simp only [offOf, List.take_succ_eq_append_getElem hk, List.map_append, List.sum_append, List.map_cons, List.map_nil,
    List.sum_cons, List.sum_nil, Nat.add_zero]

theorem off_mono (parts0 : List Bag) {j k : Nat} (h : j ≤ k) : offOf parts0 j ≤ offOf parts0 k := by
  have := sum_take_le ((parts0.take k).map (·.next)) j
  rwa [← List.map_take, List.take_take, Nat.min_eq_left h] at this

theorem off_succ_le (parts0 : List Bag) {j k : Nat} (h : j < k) (hj : j < parts0.length) :
    offOf parts0 j + parts0[j].next ≤ offOf parts0 k :=
  off_succ parts0 hj ▸ off_mono parts0 h

theorem off_le_base (parts0 : List Bag) {k : Nat} (hk : k < parts0.length) :
    offOf parts0 k + parts0[k].next ≤ partsNext parts0 0 := by
  rw [partsNext_eq, ← off_succ parts0 hk, Nat.zero_add, offOf, List.map_take]
  exact sum_take_le ..

/-- the identities of the `k`-th frozen part lie in `[offOf k, offOf k + next_k)`; by `off_succ_le` and `off_le_base` that is below the
later parts and below the new input -/
theorem frozen_range {parts0 : List Bag} (hw : ∀ p ∈ parts0, p.WF) {k : Nat} (hk : k < parts0.length) {n : BNode}
    (hn : n ∈ (parts0[k].shift (offOf parts0 k)).nodes3) :
    offOf parts0 k ≤ n.id ∧ n.id < offOf parts0 k + parts0[k].next := by
  rw [nodes3_shift] at hn
  obtain ⟨m, hm, rfl⟩ := List.mem_map.1 hn
  have := (hw _ (List.getElem_mem hk)).ids m hm
  rw [BNode.shift_id]
  omega

/-- the ranges of the frozen parts are disjoint -/
theorem frozen_unique {parts0 : List Bag} (hw : ∀ p ∈ parts0, p.WF) {j k : Nat} (hj : j < parts0.length) (hk : k < parts0.length)
    {n : BNode} (hn : n ∈ (parts0[j].shift (offOf parts0 j)).nodes3)
    (hR : offOf parts0 k ≤ n.id ∧ n.id < offOf parts0 k + parts0[k].next) : j = k := by
  have hr := frozen_range hw hj hn
  rcases Nat.lt_trichotomy j k with hlt | heq | hgt
  · have := off_succ_le parts0 hlt hj; omega
  · exact heq
  · have := off_succ_le parts0 hgt hk; omega

theorem mem_interNames (x : String) : ∀ (L : List (List String)), L ≠ [] → (x ∈ interNames L ↔ ∀ l ∈ L, x ∈ l)
  | [], h => absurd rfl h
  | [xs], _ => by simp [interNames]
  | xs :: y :: rest, _ => by
    have ih := mem_interNames x (y :: rest) (by simp)
    simp only [interNames, List.mem_filter, List.contains_eq_mem, decide_eq_true_eq, ih, List.mem_cons, forall_eq_or_imp]

theorem mergeRaw_ok {table : List (Val × Nat)} {parts0 : List Bag} {keysName : String} {raw : RawBag}
    (h : mergeRaw table parts0 keysName = .ok raw) :
    ∃ x0 : String,
      (∀ p ∈ freezeParts parts0 0, ∃ i, p.inputs = [i] ∧ i.name = x0) ∧ freezeParts parts0 0 ≠ [] ∧
      raw.inputs = [⟨partsNext parts0 0, x0⟩] ∧ partsNext parts0 0 ≤ raw.next ∧
      (∀ p ∈ freezeParts parts0 0, ∀ e ∈ p.edges, e ∈ raw.edges) ∧
      (∀ p ∈ freezeParts parts0 0, ∀ i ∈ p.inputs, identityEdge ⟨partsNext parts0 0, x0⟩ i ∈ raw.edges) ∧
      (∀ e ∈ raw.edges, (∃ p ∈ freezeParts parts0 0, e ∈ p.edges) ∨
        (∃ p ∈ freezeParts parts0 0, ∃ i ∈ p.inputs, e = identityEdge ⟨partsNext parts0 0, x0⟩ i) ∨ partsNext parts0 0 < e.out.id) ∧
      (∀ x, x ≠ keysName → (∀ p ∈ freezeParts parts0 0, x ∈ names p.outputs) →
        ∃ o : BNode, o ∈ raw.outputs ∧ o.name = x ∧ partsNext parts0 0 < o.id ∧
          ({ edge := .switch table, ins := ⟨partsNext parts0 0, x0⟩ :: (freezeParts parts0 0).filterMap (fun p => byName p.outputs x),
             out := o } : BEdge) ∈ raw.edges) := by
  unfold mergeRaw at h
  obtain ⟨hone, h⟩ := of_guard_ok h
  simp only [] at h
  split at h
  · cases h
  · rename_i x0 rest hin
    obtain ⟨hsame, h⟩ := of_guard_ok h
    injection h with h
    subst h
    simp only [List.any_eq_true, bne_iff_ne, ne_eq, not_exists, not_and, Decidable.not_not] at hone hsame
    have hne : freezeParts parts0 0 ≠ [] := fun hnil => by simp [hnil] at hin
    refine ⟨x0, fun p hp => ?_, hne, rfl, by simp only; omega, ?_⟩
    · match hpi : p.inputs, hone p hp with
      | [i], _ => exact ⟨i, rfl, hsame _ (List.mem_map_of_mem (List.mem_flatMap.2 ⟨p, hp, hpi ▸ List.mem_singleton.2 rfl⟩))⟩
    -- the edges: those of the parts, the stitches, a switch for each common name, the edge of the ids
    simp only [List.mem_append, List.mem_map, List.mem_flatMap, List.mem_singleton, List.mem_zipIdx_iff_getElem?, Prod.exists]
    refine ⟨fun p hp e he => .inl (.inl (.inl ⟨p, hp, he⟩)), fun p hp i hi => .inl (.inl (.inr ⟨i, ⟨p, hp, hi⟩, rfl⟩)), ?_, ?_⟩
    · rintro e (((h | ⟨i, ⟨p, hp, hi⟩, rfl⟩) | ⟨o, ⟨n, j, _, rfl⟩, rfl⟩) | rfl)
      · exact .inl h
      · exact .inr (.inl ⟨p, hp, i, hi, rfl⟩)
      · refine .inr (.inr ?_); simp only; omega
      · refine .inr (.inr ?_); simp only; omega
    · intro x hx hallp
      have hxc : x ∈ (interNames ((freezeParts parts0 0).map fun p => names p.outputs)).filter (· != keysName) := by
        rw [List.mem_filter, mem_interNames x _ (by simpa using hne)]
        exact ⟨fun l hl => by obtain ⟨p, hp, rfl⟩ := List.mem_map.1 hl; exact hallp p hp, by simpa using hx⟩
      obtain ⟨j, hj⟩ := List.mem_iff_getElem?.1 hxc
      exact ⟨⟨partsNext parts0 0 + 1 + j, x⟩, .inl ⟨x, j, hj, rfl⟩, rfl, by simp only; omega, .inl (.inr ⟨_, ⟨x, j, hj, rfl⟩, rfl⟩)⟩

theorem mergeBags_ok {table : List (Val × Nat)} {parts0 : List Bag} {keysName : String} {b : Bag}
    (h : mergeBags table parts0 keysName = .ok b) : ∃ raw, mergeRaw table parts0 keysName = .ok raw ∧ mkBag raw = .ok b := by
  unfold mergeBags at h
  split at h
  · cases h
  · rename_i raw hraw
    split at h
    · cases h
    · rename_i b' hmk
      injection h with h
      exact ⟨raw, hraw, h ▸ hmk⟩

/-- **Every part is embedded unchanged**: a node of the `k`-th part computes, as a node of the merged container (moved to the range of
the `k`-th frozen copy), the term it computes in the part - the part is grafted onto the common key by its stitch, and nothing else of the
merged container reaches into its range. -/
theorem merge_embeds {table : List (Val × Nat)} {parts0 : List Bag} {keysName : String} {b : Bag}
    (h : mergeBags table parts0 keysName = .ok b) (hw : ∀ p ∈ parts0, p.WF) {k : Nat} (hk : k < parts0.length)
    {n : BNode} {t : BTerm} (hd : BDen parts0[k] n t) (hn : n.id < parts0[k].next) : BDen b (n.shift (offOf parts0 k)) t := by
  obtain ⟨raw, hraw, hmk⟩ := mergeBags_ok h
  obtain ⟨x0, hone, _, hinp, hnext, hsubE, hstitch, hedges, _⟩ := mergeRaw_ok hraw
  obtain ⟨rfl, _⟩ := mkBag_ok hmk
  have hpk : parts0[k].shift (offOf parts0 k) ∈ freezeParts parts0 0 := mem_frozen.2 ⟨k, hk, rfl⟩
  obtain ⟨i, hqi, hiname⟩ := hone _ hpk
  have hii : i ∈ (parts0[k].shift (offOf parts0 k)).inputs := hqi ▸ List.mem_singleton.2 rfl
  have hbase := off_le_base parts0 hk
  refine den_embed (i := i) (inp := ⟨partsNext parts0 0, x0⟩)
    (fun n => offOf parts0 k ≤ n.id ∧ n.id < offOf parts0 k + parts0[k].next) hqi hinp hiname.symm
    (RawBag.core_edges_sub (hstitch _ hpk i hii)) (fun e he => RawBag.core_edges_sub (hsubE _ hpk e he)) ?_
    (fun e he p hp => frozen_range hw hk (nodes3_ein he hp))
    (by simp only; omega) (fun e he => (shift_wf (hw _ (List.getElem_mem hk))).inLeaf i hii e he) (den_shift hd)
    (by simp only [BNode.shift_id]; omega)
  -- inside the range there is nothing but the part's own edges and its stitch
  intro e he hR
  rcases RawBag.core_edge_inv he with he | he
  · rcases hedges e he with ⟨p, hp, hep⟩ | ⟨p, hp, i', hi', rfl⟩ | hgt
    · obtain ⟨j, hj, rfl⟩ := mem_frozen.1 hp
      obtain rfl := frozen_unique hw hj hk (nodes3_eout hep) hR
      exact Or.inl hep
    · obtain ⟨j, hj, rfl⟩ := mem_frozen.1 hp
      obtain rfl := frozen_unique hw hj hk (nodes3_in hi') hR
      exact Or.inr (List.mem_singleton.1 (hqi ▸ hi') ▸ rfl)
    · omega
  · omega

/-- **What a field of a merged container computes**: for a name `x` (other than the keys) that every part exposes, with the `k`-th part
computing `ts[k]` under it, the merged container computes under `x` the switch over the key input and exactly those terms, in the order
of the parts - for any number of well-formed parts with one input each. -/
theorem merge_field {table : List (Val × Nat)} {parts0 : List Bag} {keysName : String} {b : Bag}
    (h : mergeBags table parts0 keysName = .ok b) (hw : ∀ p ∈ parts0, p.WF)
    (x : String) (hx : x ≠ keysName) (outs0 : List BNode) (ts : List BTerm)
    (hlo : outs0.length = parts0.length) (hlt : ts.length = parts0.length)
    (hf : ∀ k (hk : k < parts0.length), outs0[k]'(hlo ▸ hk) ∈ parts0[k].outputs ∧ (outs0[k]'(hlo ▸ hk)).name = x ∧
      BDen parts0[k] (outs0[k]'(hlo ▸ hk)) (ts[k]'(hlt ▸ hk))) :
    ∃ inName, b.Field x (.node (.switch table) (.inp inName :: ts)) := by
  obtain ⟨raw, hraw, hmk⟩ := mergeBags_ok h
  obtain ⟨x0, _, _, hinp, _, _, _, _, hswitch⟩ := mergeRaw_ok hraw
  obtain ⟨rfl, _⟩ := mkBag_ok hmk
  -- the `k`-th frozen part exposes `x` at the (moved) output of the `k`-th part under that name
  have hby : ∀ k (hk : k < parts0.length), byName (parts0[k].shift (offOf parts0 k)).outputs x =
      some ((outs0[k]'(hlo ▸ hk)).shift (offOf parts0 k)) := fun k hk => by
    rw [← (hf k hk).2.1]
    exact byName_of_mem (shift_wf (hw _ (List.getElem_mem hk))).outNames (List.mem_map.2 ⟨_, (hf k hk).1, rfl⟩)
  have hallp : ∀ p ∈ freezeParts parts0 0, x ∈ names p.outputs := fun p hp => by
    obtain ⟨k, hk, rfl⟩ := mem_frozen.1 hp
    exact mem_names.2 ⟨_, byName_some (hby k hk)⟩
  obtain ⟨o, hoo, hon, hoid, hsw⟩ := hswitch x hx hallp
  have hbi : raw.core.inputs = [⟨partsNext parts0 0, x0⟩] := hinp
  have hob : o ∉ raw.core.inputs := by
    rw [hbi, List.mem_singleton]
    rintro rfl
    exact Nat.lt_irrefl _ hoid
  have hbranch : ((freezeParts parts0 0).filterMap fun p => byName p.outputs x).map some =
      (freezeParts parts0 0).map fun p => byName p.outputs x :=
    filterMap_map_some _ _ fun p hp => by
      obtain ⟨k, hk, rfl⟩ := mem_frozen.1 hp
      rw [hby k hk]; rfl
  have hblen : ((freezeParts parts0 0).filterMap fun p => byName p.outputs x).length = parts0.length := by
    simpa [freezeParts_eq] using congrArg List.length hbranch
  refine ⟨x0, o, RawBag.core_outputs_sub hoo, hon,
    .edge _ hob (RawBag.core_edges_sub hsw) rfl (by simp) (by simp [hblen, hlt]) fun q hq => ?_⟩
  obtain ⟨j, hj, rfl⟩ := List.mem_iff_getElem.1 hq
  cases j with
  | zero => exact .input (hbi ▸ List.mem_singleton.2 rfl)
  | succ k =>
    have hk : k < parts0.length := by
      simp only [List.zip_cons_cons, List.length_cons, List.length_zip, hblen, hlt] at hj; omega
    have hbk : ((freezeParts parts0 0).filterMap fun p => byName p.outputs x)[k]'(hblen ▸ hk) =
        (outs0[k]'(hlo ▸ hk)).shift (offOf parts0 k) := by
      have := congrArg (·[k]?) hbranch
      simp only [List.getElem?_map, frozen_get parts0 k hk, List.getElem?_eq_getElem (hblen ▸ hk), Option.map_some, hby k hk] at this
      exact Option.some.inj (Option.some.inj this)
    simp only [List.zip_cons_cons, List.getElem_cons_succ, List.getElem_zip, hbk]
    exact merge_embeds h hw hk (hf k hk).2.2 ((hw _ (List.getElem_mem hk)).ids _ (nodes3_out (hf k hk).1))

end CM
