/-
  CM.Proofs.JoinBag — the container `Join` builds (CM.Model.JoinBag): `joinBag` is a series of rejections followed by `mkBag (joinRaw ..)`;
  what is proved about the container is read off `joinRaw`.  The definitions below repeat the `let`s of the model's body: `joinBag_ok` hands
  the model's own `mkBag {…}` equation to `built`, which stops type-checking when one side is edited without the other.
-/
import CM.Model.JoinBag
import CM.Proofs.Basics
namespace CM

/-- the fields of one side that a `Join` may combine: its outputs other than `ids` and its key `k` -/
def joinOwn (b : Bag) (k : BNode) : List BNode := b.outputs.filter fun o => o.name != "ids" && o.name != k.name

/-- the names both sides have among those: the join must be made on exactly these -/
def joinInter (l r : Bag) (lk rk : BNode) : List String := (names (joinOwn l lk)).filter (names (joinOwn r rk)).contains

/-- the fields of one side alone -/
def joinOnly (own : List BNode) (inter : List String) : List BNode := own.filter fun o => !inter.contains o.name

/-- `JoinMapping(left ids, right ids)` behind the user's cache (if any) and a memory cache -/
def joinMapEdges (n : Nat) (kl kr : BNode) (cached : Bool) : List BEdge :=
  [{ edge := joinMappingK, ins := [kl, kr], out := ⟨n, "$mapping"⟩ }] ++
  (if cached then [{ edge := .cache 1, ins := [⟨n, "$mapping"⟩], out := ⟨n + 1, "$mapping"⟩ },
                   { edge := .cache 0, ins := [⟨n + 1, "$mapping"⟩], out := ⟨n + 2, "$mapping"⟩ }]
   else [{ edge := .cache 0, ins := [⟨n, "$mapping"⟩], out := ⟨n + 2, "$mapping"⟩ }])

/-- the old keys `lk`, `rk` of both sides from (new id, mapping) behind a hash barrier; the new `id` handed on; the new `ids` -/
def joinKeyEdges (n : Nat) (lk rk : BNode) (how : String) : List BEdge :=
  [{ edge := joinIdK 0, ins := [⟨n + 3, "id"⟩, ⟨n + 2, "$mapping"⟩], out := ⟨n + 5, "$aux"⟩ },
   { edge := .barrier, ins := [⟨n + 5, "$aux"⟩], out := lk },
   { edge := joinIdK 1, ins := [⟨n + 3, "id"⟩, ⟨n + 2, "$mapping"⟩], out := ⟨n + 6, "$aux"⟩ },
   { edge := .barrier, ins := [⟨n + 6, "$aux"⟩], out := rk },
   identityEdge ⟨n + 3, "id"⟩ ⟨n + 4, "id"⟩, { edge := joinIdsK how, ins := [⟨n + 2, "$mapping"⟩], out := ⟨n + 7, "ids"⟩ }]

/-- the output nodes of the key fields -/
def joinOnLoc (n : Nat) (on : List String) : List BNode := (List.range on.length).zip on |>.map fun (i, x) => ⟨n + 8 + i, x⟩

/-- one `SwitchBranch` per key field, over the fields of that name of both sides -/
def joinOnEdges (n : Nat) (ol or_ : List BNode) (on : List String) : List BEdge := (joinOnLoc n on).filterMap fun loc =>
  match byName ol loc.name, byName or_ loc.name with
  | some a, some b => some { edge := .switchBranch, ins := [⟨n + 3, "id"⟩, ⟨n + 2, "$mapping"⟩, a, b], out := loc }
  | _, _ => none

/-- the arguments `JoinContainer.__init__` passes to `EdgesBag(...)`: the body of `joinBag` below its rejections.  `r` is the copy of the right side
placed above the left one, `lk`, `rk` the inputs of the sides and `kl`, `kr` their `ids` outputs -/
def joinRaw (l r : Bag) (lk rk kl kr : BNode) (on : List String) (how : String) (cached : Bool) : RawBag :=
  let n := r.next
  let inp : BNode := ⟨n + 3, "id"⟩
  let mm : BNode := ⟨n + 2, "$mapping"⟩
  let leftOnly := joinOnly (joinOwn l lk) (joinInter l r lk rk)
  let rightOnly := joinOnly (joinOwn r rk) (joinInter l r lk rk)
  let b1 := n + 8 + on.length
  let leftLoc : List BNode := (List.range leftOnly.length).zip leftOnly |>.map fun (i, o) => ⟨b1 + i, o.name⟩
  let b2 := b1 + leftOnly.length
  let rightLoc : List BNode := (List.range rightOnly.length).zip rightOnly |>.map fun (i, o) => ⟨b2 + i, o.name⟩
  let guardLeft := how == "right" || how == "outer"
  let guardRight := how == "left" || how == "outer"
  let leftEdges : List BEdge := if guardLeft then (leftOnly.zip leftLoc).map fun (o, loc) =>
    { edge := .switchMissing 0, ins := [inp, mm, o], out := loc } else []
  let rightEdges : List BEdge := if guardRight then (rightOnly.zip rightLoc).map fun (o, loc) =>
    { edge := .switchMissing 1, ins := [inp, mm, o], out := loc } else []
  { inputs := [inp],
    outputs := [⟨n + 4, "id"⟩, ⟨n + 7, "ids"⟩] ++ joinOnLoc n on ++ (if guardLeft then leftLoc else leftOnly) ++
      (if guardRight then rightLoc else rightOnly),
    edges := l.edges ++ r.edges ++ joinMapEdges n kl kr cached ++ joinKeyEdges n lk rk how ++
      joinOnEdges n (joinOwn l lk) (joinOwn r rk) on ++ leftEdges ++ rightEdges,
    virt := .fin [], persistent := l.persistent.filter r.persistent.contains, optional := l.optional ++ r.optional,
    ctx := .no, next := b2 + rightOnly.length }

section
variable {l r : Bag} {lk rk kl kr : BNode} {on : List String} {how : String} {cached : Bool}

theorem mem_joinOwn {b : Bag} {k o : BNode} : o ∈ joinOwn b k ↔ o ∈ b.outputs ∧ o.name ≠ "ids" ∧ o.name ≠ k.name := by
  simp only [joinOwn, List.mem_filter, Bool.and_eq_true, bne_iff_ne]

theorem mem_joinInter {x : String} : x ∈ joinInter l r lk rk ↔ x ∈ names (joinOwn l lk) ∧ x ∈ names (joinOwn r rk) := by
  simp only [joinInter, List.mem_filter, List.contains_iff_mem]

theorem mem_joinOnly {own : List BNode} {inter : List String} {o : BNode} : o ∈ joinOnly own inter ↔ o ∈ own ∧ o.name ∉ inter := by
  simp only [joinOnly, List.mem_filter, Bool.not_eq_true', List.contains_eq_mem, decide_eq_false_iff_not]

theorem joinRaw_edges_mem {e : BEdge} (h : e ∈ l.edges ∨ e ∈ r.edges ∨ e ∈ joinMapEdges r.next kl kr cached ∨ e ∈ joinKeyEdges r.next lk rk how ∨
    e ∈ joinOnEdges r.next (joinOwn l lk) (joinOwn r rk) on) : e ∈ (joinRaw l r lk rk kl kr on how cached).edges := by
  refine List.mem_append_left _ (List.mem_append_left _ ?_)
  simp only [List.mem_append]
  rcases h with h | h | h | h | h <;> simp only [h, true_or, or_true]

theorem joinRaw_outputs_mem {o : BNode} (h : o ∈ [⟨r.next + 4, "id"⟩, ⟨r.next + 7, "ids"⟩] ++ joinOnLoc r.next on) :
    o ∈ (joinRaw l r lk rk kl kr on how cached).outputs :=
  List.mem_append_left _ (List.mem_append_left _ h)

/-- a side that cannot be missing hands its own fields on as they are -/
theorem joinRaw_left_pass (hg : (how == "right" || how == "outer") = false) {o : BNode}
    (h : o ∈ joinOnly (joinOwn l lk) (joinInter l r lk rk)) : o ∈ (joinRaw l r lk rk kl kr on how cached).outputs := by
  refine List.mem_append_left _ (List.mem_append_right _ ?_)
  simp only [hg]
  exact h

theorem joinOn_mem {n : Nat} {ol or_ : List BNode} {x : String} {a c : BNode} (hx : x ∈ on)
    (ha : byName ol x = some a) (hc : byName or_ x = some c) :
    ∃ loc ∈ joinOnLoc n on, loc.name = x ∧
      ({ edge := .switchBranch, ins := [⟨n + 3, "id"⟩, ⟨n + 2, "$mapping"⟩, a, c], out := loc } : BEdge) ∈ joinOnEdges n ol or_ on := by
  obtain ⟨i, hi⟩ := exists_zip_right List.length_range hx
  have hloc : (⟨n + 8 + i, x⟩ : BNode) ∈ joinOnLoc n on := List.mem_map.2 ⟨(i, x), hi, rfl⟩
  refine ⟨_, hloc, rfl, List.mem_filterMap.2 ⟨_, hloc, ?_⟩⟩
  simp only [ha, hc]

end

/-- what `joinBag l r0 on how cached` has checked when it builds `b`.  `r` stands for the shifted right side `r0.shift l.next`, `lk`, `rk` for the
inputs of the sides and `kl`, `kr` for their `ids` outputs -/
structure JoinChecked (l r : Bag) (lk rk kl kr : BNode) (on : List String) (how : String) (cached : Bool) (b : Bag) : Prop where
  leftInput : l.inputs = [lk]
  rightInput : r.inputs = [rk]
  leftIds : byName l.outputs "ids" = some kl
  rightIds : byName r.outputs "ids" = some kr
  onNodup : hasDupStr on = false
  /-- each side has its key among its outputs -/
  leftKey : lk.name ∈ names l.outputs
  rightKey : rk.name ∈ names r.outputs
  /-- no key field is the key of a side -/
  onNotKey : ∀ x ∈ on, x ≠ lk.name ∧ x ≠ rk.name
  /-- the join is made on exactly the names both sides share -/
  onInter : ∀ x, x ∈ on ↔ x ∈ joinInter l r lk rk
  built : mkBag (joinRaw l r lk rk kl kr on how cached) = .ok b

theorem joinBag_ok {l r0 b : Bag} {on : List String} {how : String} {cached : Bool} (h : joinBag l r0 on how cached = .ok b) :
    ∃ lk rk kl kr, JoinChecked l (r0.shift l.next) lk rk kl kr on how cached b := by
  unfold joinBag at h
  obtain ⟨hdup, h⟩ := of_guard_ok h
  split at h
  · rename_i lk rk hl hr
    split at h
    · rename_i kl kr hkl hkr
      obtain ⟨hkey, h⟩ := of_guard_ok h
      obtain ⟨hon, h⟩ := of_guard_ok h
      obtain ⟨hsub, h⟩ := of_guard_ok h
      obtain ⟨hsup, h⟩ := of_guard_ok h
      simp only [Bool.or_eq_true, Bool.not_eq_true', not_or, Bool.not_eq_false, List.contains_iff_mem] at hkey
      simp only [List.any_eq_true, not_exists, not_and, Bool.or_eq_true, beq_iff_eq, not_or, Bool.not_eq_true', Bool.not_eq_false,
        List.contains_iff_mem] at hon hsub hsup
      exact ⟨lk, rk, kl, kr, {
        leftInput := hl, rightInput := hr, leftIds := hkl, rightIds := hkr, onNodup := Bool.eq_false_iff.2 hdup
        leftKey := hkey.1, rightKey := hkey.2, onNotKey := hon, onInter := fun x => ⟨hsub x, hsup x⟩, built := h }⟩
    · cases h
  · cases h

end CM
