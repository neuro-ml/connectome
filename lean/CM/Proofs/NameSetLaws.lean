/-
  CM.Proofs.NameSetLaws — membership is a homomorphism for every operator of the `AntiSet` model.
-/
import CM.Model.NameSet
namespace CM.NameSet

@[simp] theorem mem_fin (xs : List String) (x : String) : (fin xs).mem x = xs.contains x := rfl

theorem mem_linter (a b : List String) (x : String) : x ∈ linter a b ↔ (x ∈ a ∧ x ∈ b) := by
  simp [linter, List.mem_filter]

theorem mem_ldiff (a b : List String) (x : String) : x ∈ ldiff a b ↔ (x ∈ a ∧ x ∉ b) := by
  simp [ldiff, List.mem_filter]

theorem mem_lunion (a b : List String) (x : String) : x ∈ lunion a b ↔ (x ∈ a ∨ x ∈ b) := by
  simp only [lunion, List.mem_append, mem_ldiff]
  by_cases h : x ∈ a <;> simp [h]

@[simp] theorem mem_inter (a b : NameSet) (x : String) : (a.inter b).mem x = (a.mem x && b.mem x) := by
  cases a <;> cases b <;>
    simp only [inter, mem, List.contains_eq_mem, mem_linter, mem_ldiff, mem_lunion, Bool.decide_and, Bool.decide_or,
      decide_not, Bool.not_or, Bool.and_comm]

@[simp] theorem mem_union (a b : NameSet) (x : String) : (a.union b).mem x = (a.mem x || b.mem x) := by
  cases a <;> cases b <;>
    simp only [union, mem, List.contains_eq_mem, mem_linter, mem_ldiff, mem_lunion, Bool.decide_and, Bool.decide_or,
      decide_not, Bool.not_and, Bool.not_not, Bool.or_comm]

@[simp] theorem mem_diff (a b : NameSet) (x : String) : (a.diff b).mem x = (a.mem x && !b.mem x) := by
  cases a <;> cases b <;>
    simp only [diff, mem, List.contains_eq_mem, mem_linter, mem_ldiff, mem_lunion, Bool.decide_and, Bool.decide_or,
      decide_not, Bool.not_or, Bool.not_not, Bool.and_comm]

@[simp] theorem mem_all (x : String) : all.mem x = true := by simp [all, mem]
@[simp] theorem mem_empty (x : String) : empty.mem x = false := by simp [empty, mem]

end CM.NameSet
