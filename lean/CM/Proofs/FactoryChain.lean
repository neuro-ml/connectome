/-
  CM.Proofs.FactoryChain — a layer built from its class body, connected to a pipeline: each of its fields computes its function
  over what the pipeline computes under the argument names (`layer_over_pipeline`, from `connect_defined`), and which fields
  `pipeline >> layer` exposes (`layer_exposes`).
-/
import CM.Proofs.BagConnect
import CM.Proofs.BagMain
import CM.Proofs.Factory
import CM.Proofs.FactoryWF
namespace CM

/-- **A layer written as a class body, on top of any pipeline.**  Let `l` be the (well-formed) container of a pipeline, `r` a
layer description whose container the factory builds, and `c = connect_bags(l, container of r)`.  Then `c` is well-formed and
its field `f.name` computes exactly: the function of `f` applied to what its arguments denote inside the layer (`ArgDen`:
inputs by name, constructor arguments as constants, private parameters recursively), with every input name replaced by what the
pipeline `l` computes under that name (`Glue`: the earlier field; the raw input if `l` passes the name on from upstream;
unreachable otherwise). -/
theorem layer_over_pipeline {l b c : Bag} {r : RawLayer} (hl : l.WF) (hb : r.factory = .ok b) (hc : connectBags l b = .ok c)
    (f : RawField) (hf : f ∈ r.fields) (ts : List BTerm) (hlen : f.args.length = ts.length)
    (hargs : ∀ q ∈ f.args.zip ts, ArgDen r q.1 q.2) :
    c.WF ∧ ∀ t, c.Field f.name t ↔ Glue l (.node (.function f.f [] []) ts) t := by
  have hbw := factory_wf hb
  exact ⟨(connect_step hl hbw hc).1, connect_defined hl hbw hc (factory_field hb f hf ts hlen hargs)⟩

/-- **Which fields `pipeline >> layer` exposes** (node level, from the class body): exactly the fields the layer defines; the earlier
fields it inherits (a name list, `True`, everything but `__exclude__`: `fwdVirt`) - and an inherited name the layer consumes itself,
which it passes through from its own input; and the persistent fields of the pipeline that the layer neither defines nor passes
through itself.  Every other earlier field is gone. -/
theorem layer_exposes {l b c : Bag} {r : RawLayer} (hl : l.WF) (hb : r.factory = .ok b) (hc : connectBags l b = .ok c) (x : String) :
    x ∈ names c.outputs ↔
      x ∈ r.layout.outputs ∨
      (r.fwdVirt.mem x = true ∧ (x ∈ r.layout.inputs ∨ x ∈ names l.outputs)) ∨
      (x ∈ r.layout.inputs ∧ x ∈ r.persistentNames ∧ x ∉ r.layout.outputs) ∨
      (x ∈ names l.outputs ∧ x ∈ l.persistent ∧ x ∉ names b.outputs) := by
  obtain ⟨_, _, hnames, _⟩ := connect_step hl (factory_wf hb) hc
  obtain ⟨ho, hv, _⟩ := factory_names hb
  -- `b` exposes what the layer defines or passes through itself (`hbo`), and hands on what it inherits and does not pass through itself
  have hbo := ho x
  rw [hnames x, passes_iff, hv x, Bool.and_eq_true, Bool.not_eq_true', decide_eq_false_iff_not]
  constructor
  · rintro (hxb | ⟨hL, ⟨hF, _⟩ | ⟨hLP, hnb⟩⟩)
    · rcases hbo.1 hxb with hA | ⟨hI, hF | hP, hA⟩
      · exact .inl hA
      · exact .inr (.inl ⟨hF, .inl hI⟩)
      · exact .inr (.inr (.inl ⟨hI, hP, hA⟩))
    · exact .inr (.inl ⟨hF, .inr hL⟩)
    · exact .inr (.inr (.inr ⟨hL, hLP, hnb⟩))
  · rintro (hA | ⟨hF, hIL⟩ | ⟨hI, hP, hA⟩ | ⟨hL, hLP, hnb⟩)
    · exact .inl (hbo.2 (.inl hA))
    · -- an inherited name: exposed by `b` if the layer defines or consumes it, handed on from `l` otherwise
      by_cases hxb : x ∈ names b.outputs
      · exact .inl hxb
      · have hT := fun hT => hxb (hbo.2 (.inr hT))
        rcases hIL with hI | hL
        · exact absurd ⟨hI, .inl hF, fun hA => hxb (hbo.2 (.inl hA))⟩ hT
        · exact .inr ⟨hL, .inl ⟨hF, hT⟩⟩
    · exact .inl (hbo.2 (.inr ⟨hI, .inr hP, hA⟩))
    · exact .inr ⟨hL, .inr ⟨hLP, hnb⟩⟩

end CM
