/-
  CM.Proofs.CheckIds — `CheckIds` at the node level: every field computes its old term with the key replaced by the guarded key;
  the guarded key has the hash of the key and, for a key among the ids, its value; for a foreign key it raises `KeyError`.
  The proofs work on `raw.core` directly (`mkBag_ok`, then `RawBag.core_edges_sub`, `core_edge_inv`) rather than through the
  `mkBag_*` lemmas of `MkBag`: they need the edges of the result characterised in both directions.
-/
import CM.Model.CheckIds
import CM.Proofs.BagStruct
import CM.Proofs.BagChecks
import CM.Proofs.CoreWF
import CM.Proofs.TermDen
import CM.Proofs.Graft
namespace CM

section
variable {prev b : Bag}

/-- the arguments `CheckIds._connect` passes to `EdgesBag(...)`.  It repeats the record in the body of `checkIdsBag` (CM.Model.CheckIds);
`checkIdsBag_ok` ties the two, so an edit on one side alone stops the build. -/
def checkIdsRaw (prev : Bag) (i idsOut : BNode) : RawBag :=
  { inputs := [⟨prev.next, i.name⟩], outputs := prev.outputs,
    edges := prev.edges ++ [{ edge := .checkIds, ins := [⟨prev.next, i.name⟩, idsOut], out := i }],
    virt := prev.virt, persistent := prev.persistent, optional := prev.optional, ctx := prev.ctx, next := prev.next + 1 }

theorem checkIdsBag_ok (h : checkIdsBag prev = .ok b) :
    ∃ i idsOut, prev.inputs = [i] ∧ byName prev.outputs "ids" = some idsOut ∧ b = (checkIdsRaw prev i idsOut).core := by
  unfold checkIdsBag at h
  split at h
  · exact ⟨_, _, ‹_›, ‹_›, (mkBag_ok h).1⟩
  · cases h

/-- **Every node of the old container computes, in the guarded one, its old term with the key replaced by the guarded key**: the old
container is grafted onto the `CheckIdsEdge` (`den_graft`); the `ids` do not depend on the key, so they are computed as before. -/
theorem den_checkIds (hw : prev.WF) (h : checkIdsBag prev = .ok b) {i idsOut : BNode} (hpi : prev.inputs = [i])
    (hids : byName prev.outputs "ids" = some idsOut) (tids : BTerm) (hdi : BDen prev idsOut tids) (hcl : tids.closed)
    {n : BNode} {t : BTerm} (hd : BDen prev n t) :
    n.id < prev.next → BDen b n (t.subst i.name (.node .checkIds [.inp i.name, tids])) := by
  obtain ⟨i', idsOut', hpi', hids', rfl⟩ := checkIdsBag_ok h
  obtain rfl : i' = i := (List.cons.inj (hpi'.symm.trans hpi)).1
  obtain rfl : idsOut' = idsOut := Option.some.inj (hids'.symm.trans hids)
  have hnb : ∀ m : BNode, m.id < prev.next → m ∉ (checkIdsRaw prev i' idsOut').core.inputs := fun m hm hmem => by
    cases List.mem_singleton.1 hmem
    exact Nat.lt_irrefl _ hm
  -- below the old counter the guarded container has the old edges and the `CheckIdsEdge` into the old key
  have graft := fun G n t => @den_graft prev _ i' (fun m => m.id < prev.next) G hpi hnb
    (fun e he => RawBag.core_edges_sub (List.mem_append_left _ he))
    (fun e he hR ho => by
      rcases RawBag.core_edge_inv he with h1 | h1
      · exact (List.mem_append.1 h1).resolve_right fun h1 => ho (List.mem_singleton.1 h1 ▸ rfl)
      · exact absurd hR (Nat.not_lt.2 (Nat.le_of_succ_le h1)))
    (fun e he p hp => hw.ids p (nodes3_ein he hp)) n t
  have hidsB : BDen _ idsOut' tids :=
    subst_closed _ _ _ hcl ▸ graft (.inp i'.name) _ _ hdi (hw.ids _ (nodes3_out (byName_some hids).1)) fun hnc => absurd hcl hnc
  exact fun hn => graft _ _ _ hd hn fun _ hi =>
    .edge _ (hnb _ hi) (RawBag.core_edges_sub (List.mem_append_right _ (List.mem_singleton.2 rfl))) rfl (by simp) rfl
      (by simpa using ⟨.input (List.mem_singleton.2 rfl), hidsB⟩)

end

/-- **Replacing an input by a term that has the hash and the value of that input changes no denotation**: an edge sees of its arguments
the hashes and the values only (`EdgeK.den_congr`). -/
theorem den_subst (d : DenCfg) (x : String) (G : BTerm) (hG : DenEq (G.den d) ((BTerm.inp x).den d)) :
    ∀ t : BTerm, DenEq ((t.subst x G).den d) (t.den d)
  | .inp y => by
    simp only [BTerm.subst]
    split
    · rename_i hy
      exact beq_iff_eq.1 hy ▸ hG
    · exact .refl _
  | .missing _ => .refl _
  | .node e args => by
    rw [BTerm.subst, substL_eq_map, BTerm.den_node, BTerm.den_node, denList_eq_map, denList_eq_map, List.map_map,
      EdgeK.den_congr e (d.call 0) ((fun t => BTerm.den d t) ∘ fun t => t.subst x G) (fun t => BTerm.den d t) rfl
        (den_substL d x G hG args)]
    exact .refl _
where
  den_substL (d : DenCfg) (x : String) (G : BTerm) (hG : DenEq (G.den d) ((BTerm.inp x).den d)) :
      ∀ (ts : List BTerm), ∀ q ∈ ts.zip ts, DenEq ((q.1.subst x G).den d) (q.2.den d)
    | t :: ts, q, h => by
      rcases List.mem_cons.1 h with rfl | h
      · exact den_subst d x G hG t
      · exact den_substL d x G hG ts q h

/-- **The guarded key**: the node `CheckIdsEdge(key, ids)` has the node hash of the key; its value is the key if the key is among
the ids and `KeyError` otherwise. -/
theorem checkIds_guard_den (d : DenCfg) (x : String) (tids : BTerm) (v : Val) (ids : List Val) (hh : NHash × Val)
    (hx : d.env x = some v) (hih : (tids.den d).h = .ok hh) (hiv : (tids.den d).v = .ok (.tup ids)) :
    ((BTerm.node .checkIds [.inp x, tids]).den d).h.map (·.1) = .ok (.leaf v) ∧
    ((BTerm.node .checkIds [.inp x, tids]).den d).v = (if ids.any (·.pyEq v) then .ok v else .error .keyError) := by
  have ht : tids.den d = ⟨.ok hh, .ok (.tup ids)⟩ := by rw [← hih, ← hiv]
  rw [BTerm.den_node, BTerm.denList, BTerm.denList, BTerm.den_inp hx, ht]
  -- both parents are known: the programs of the edge run on them (`hashProg`: the hash of the first; `evalProg`: the test below)
  refine ⟨rfl, ?_⟩
  show (interp _ (if ids.any (·.pyEq v) then .ret (.val v) else .raise .keyError)).bind Item.asVal = _
  split <;> rfl

end CM
