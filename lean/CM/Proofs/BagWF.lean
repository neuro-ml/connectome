/-
  CM.Proofs.BagWF — well-formedness is preserved by connect_bags (`connected_wf`).  `Bag.WF` itself and `core_wf` are in `CM.Proofs.CoreWF`,
  `wfB_sound` in `CM.Proofs.BagWfB`.
-/
import CM.Proofs.BagConnect
namespace CM
section
variable {l r : Bag}

theorem connectRaw_nodes (h : Sep l r) {n : BNode}
    (hn : n ∈ (connectRaw l r).inputs ++ (connectRaw l r).outputs ++ edgeNodes (connectRaw l r).edges) :
    n ∈ l.nodes3 ∨ n ∈ r.nodes3 ∨ n ∈ (lvPart l r).1 ∨ n ∈ (rvPart l r).1 := by
  simp only [connectRaw, edgeNodes_append, List.mem_append] at hn
  rcases hn with ((hn | hn) | hn | hn) | (((hn | hn) | hn) | hn) | hn
  -- the inputs: of `l`, fresh
  · exact .inl (nodes3_in hn)
  · exact .inr (.inr (.inl hn))
  -- the outputs: of `r`, fresh
  · exact .inr (.inl (nodes3_out hn))
  · exact .inr (.inr (.inr hn))
  -- the ends of the edges: of `l`, of `r`, the stitches, `lv`, `rv`
  · exact .inl (mem_nodes3.2 (.inr (.inr hn)))
  · exact .inr (.inl (mem_nodes3.2 (.inr (.inr hn))))
  · obtain ⟨e, he, hne⟩ := mem_edgeNodes.1 hn
    obtain ⟨o, ho, i, hi, _, rfl⟩ := (mem_common h.wr).1 he
    rcases identityEdge_node hne with rfl | rfl
    · exact .inl (nodes3_out ho)
    · exact .inr (.inl (nodes3_in hi))
  · rcases edgeNodes_cloneEdges hn with hn | hn
    · exact .inr (.inl (nodes3_in (mem_lvNodes.1 hn).1))
    · exact .inr (.inr (.inl hn))
  · rcases edgeNodes_cloneEdges hn with hn | hn
    · exact .inl (nodes3_out (mem_rvNodes.1 hn).1)
    · exact .inr (.inr (.inr hn))

/-- **Well-formedness is preserved by `connect_bags`** (when its checks pass): the arguments it passes to `EdgesBag(...)`
satisfy the hypotheses of `core_wf`. -/
theorem connected_wf (h : Sep l r) (hc : Checked (connectRaw l r) (connected l r)) : (connected l r).WF := by
  refine core_wf _ hc (fun n hn => ?_) fun x hx => .inl (connectRaw_pers h x hx)
  have := h.le
  have : (connectRaw l r).next = r.next + (lvNodes l r).length + (rvNodes l r).length := rv_next
  rcases connectRaw_nodes h hn with hn | hn | hn | hn
  · have := h.l_id hn; omega
  · have := (h.r_id hn).2; omega
  · have := (fresh_lv hn).2; omega
  · have := (fresh_rv hn).2; omega

end

end CM
