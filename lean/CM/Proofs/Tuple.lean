/-
  CM.Proofs.Tuple — multi-field requests: the product node `GraphCompiler._compile` puts above the requested nodes computes the
  tuple of their values in request order, on the stack machine.
-/
import CM.Proofs.Basics
import CM.Proofs.All2
import CM.Proofs.EdgeSem
import CM.Proofs.BagSem
import CM.Proofs.BagStruct
import CM.Proofs.CoreWF
import CM.Proofs.TermDen
import CM.Proofs.BagPipeline
namespace CM

/-- **A product node denotes the tuple of the values of its arguments, in order.** -/
theorem product_den (d : DenCfg) (ts : List BTerm) (vs : List Val) (hl : ts.length = vs.length)
    (hv : ∀ i (h : i < ts.length), (ts[i].den d).v = .ok (vs[i]'(hl ▸ h))) :
    ((BTerm.node .product ts).den d).v = .ok (.tup vs) := by
  rw [BTerm.den_node, denList_eq_map]
  simp only [EdgeK.den, List.length_map]
  rw [(evalProg_simple (e := .product) rfl nofun).2 ⟨vs, all2_range.2 ⟨hl.symm, fun i v hiv => ?_⟩, rfl⟩]
  · rfl
  · obtain ⟨hi, rfl⟩ := List.getElem?_eq_some_iff.1 hiv
    have hi' : i < ts.length := hl ▸ hi
    simpa only [argCtx, List.getElem?_map, List.getElem?_eq_getElem hi', Option.map_some] using hv i hi'

section
variable {b : Bag} {outs : List BNode}

theorem mem_withProduct_edges {e : BEdge} :
    e ∈ (b.withProduct outs).1.edges ↔ e ∈ b.edges ∨ e = { edge := .product, ins := outs, out := (b.withProduct outs).2 } := by
  simp [Bag.withProduct]

theorem withProduct_fresh (hb : b.WF) {n : BNode} (hn : n ∈ b.nodes3) : n ≠ (b.withProduct outs).2 := fun h =>
  Nat.lt_irrefl b.next (by simpa [h, Bag.withProduct] using hb.ids n hn)

theorem withProduct_agree (hb : b.WF) : AgreeOn (fun n => n.id < b.next) b (b.withProduct outs).1 where
  inputs _ _ := Iff.rfl
  edges e he := by
    rw [mem_withProduct_edges]
    refine ⟨?_, Or.inl⟩
    rintro (h | rfl)
    · exact h
    · exact absurd he (Nat.lt_irrefl _)
  closed e he hS i hi := by
    rcases mem_withProduct_edges.1 he with he | rfl
    · exact hb.ids i (nodes3_ein he hi)
    · exact absurd hS (Nat.lt_irrefl _)

theorem withProduct_den (hb : b.WF) (hlt : ∀ o ∈ outs, o.id < b.next) (ts : List BTerm) (hl : outs.length = ts.length)
    (hd : ∀ q ∈ outs.zip ts, BDen b q.1 q.2) :
    BDen (b.withProduct outs).1 (b.withProduct outs).2 (.node .product ts) := by
  have hp : (b.withProduct outs).2 ∉ (b.withProduct outs).1.inputs := fun h => withProduct_fresh hb (nodes3_in h) rfl
  refine .edge _ hp (mem_withProduct_edges.2 (.inr rfl)) rfl nofun hl fun q hq => ?_
  exact (BDen.frame (withProduct_agree hb) (hlt q.1 (List.of_mem_zip hq).1) q.2).2 (hd q hq)

theorem withProduct_wf (hb : b.WF) (hlt : ∀ o ∈ outs, o.id < b.next) : (b.withProduct outs).1.WF where
  ids := by
    intro n hn
    -- the nodes of the new bag: those of `b`, the product node, the requested nodes
    have hn : n ∈ b.nodes3 ∨ n = (b.withProduct outs).2 ∨ n ∈ outs := by
      simpa only [Bag.nodes3, edgeNodes, Bag.withProduct, List.flatMap_append, List.flatMap_cons, List.flatMap_nil, List.append_nil,
        List.mem_append, List.mem_cons, or_assoc] using hn
    rcases hn with hn | rfl | hn
    · exact Nat.lt_succ_of_lt (hb.ids n hn)
    · exact Nat.lt_succ_self _
    · exact Nat.lt_succ_of_lt (hlt n hn)
  outs := by
    simp only [OutsNodup, Bag.withProduct, List.map_append, List.map_cons, List.map_nil]
    refine nodup_snoc hb.outs fun h => ?_
    obtain ⟨e, he, ho⟩ := List.mem_map.1 h
    exact withProduct_fresh hb (nodes3_eout he) ho
  inLeaf := by
    intro n hn e he
    rcases mem_withProduct_edges.1 he with he | rfl
    · exact hb.inLeaf n hn e he
    · exact fun h => withProduct_fresh hb (nodes3_in hn) h.symm
  inNames := hb.inNames
  outNames := hb.outNames
  virtOut := hb.virtOut
  virtIn := hb.virtIn
  persOut := hb.persOut

end

/-- **A multi-field request returns the tuple of the fields' values, in request order.**  For a well-formed bag whose edges are
of the kinds `vm_correct` covers, the graph compiled for the product node above the requested nodes (`GraphCompiler._compile` of a
tuple of names), run on the stack machine with every used input bound, no scheduled failure and no impure function, stops and
returns `(v1, ..., vk)` where `vi` is the value of the term the i-th requested node computes. -/
theorem tuple_value {b : Bag} {outs : List BNode} (hb : b.WF) (hlt : ∀ o ∈ outs, o.id < b.next)
    (hac : acyclicB (b.withProduct outs).1.edges = true) (hwf : ∀ e ∈ b.edges, e.edge.wf = true)
    (env : String → Option Val) (w : World)
    (hc : CallOK ((b.withProduct outs).1.compileGraph (b.withProduct outs).2) env) (hf : w.failAt = []) (hp : w.impureFns = [])
    (ts : List BTerm) (vs : List Val) (hl : outs.length = ts.length) (hlv : ts.length = vs.length)
    (hd : ∀ q ∈ outs.zip ts, BDen b q.1 q.2) (hnm : ∀ t ∈ ts, t.NoMissing)
    (hv : ∀ i (h : i < ts.length), (ts[i].den (denCfgOf env w)).v = .ok (vs[i]'(hlv ▸ h))) :
    ∃ N s steps, ∀ fuel, N ≤ fuel →
      ((b.withProduct outs).1.compileGraph (b.withProduct outs).2).call env w fuel = some (.done (.val (.tup vs)) s, steps) := by
  have hwf' : ∀ e ∈ (b.withProduct outs).1.edges, e.edge.wf = true := by
    intro e he
    rcases mem_withProduct_edges.1 he with he | rfl
    · exact hwf e he
    · rfl
  have hw := withProduct_wf hb hlt
  obtain ⟨N, out, steps, hcall, hok, _⟩ := pipeline_run hw.single hw.inLeaf hac hwf' env w hc hf hp
    (withProduct_den hb hlt ts hl hd)
  obtain ⟨s, rfl⟩ := hok _ (product_den _ ts vs hlv hv)
  exact ⟨N, s, steps, hcall⟩

end CM
