/-
  C10 — Decorated functions run forward, then f, then the inverses in reverse order.
  Property theorems about CM.Model.Loopback (tied to /repo by the S-CTX correspondence and reference) and, at the node level,
  about `EdgesBag.loopback` / `Context.reverse` as modelled in CM.Model.Bag (tied to /repo by S-NODE: every real loopback call
  is replayed on the model).
-/
import CM.Model.Loopback
import CM.Proofs.StackLemmas
import CM.Proofs.MkBag
import CM.Proofs.BagField
import CM.Proofs.ChainRev
import CM.Proofs.Factory
import CM.Proofs.BagTerm
namespace CM.C10
open CM

/-- **Reverse order.**  Reversing a list of layers is reversing its head (the *last* layer of the chain) first and
the rest afterwards; for a chain `ls ++ [l]` the inverse of `l` is therefore applied before those of `ls`. -/
theorem reverse_append (xs ys : List (Layer × Sig)) (b : Back) :
    reverseAll (xs ++ ys) b = (reverseAll xs b).bind (reverseAll ys) := by
  induction xs generalizing b with
  | nil => rfl
  | cons x xs ih =>
    obtain ⟨l, pre⟩ := x
    simp only [List.cons_append, reverseAll]
    cases l.reverse pre b with
    | none => rfl
    | some b' => exact ih b'

theorem last_layer_first (ls : List (Layer × Sig)) (l : Layer) (pre : Sig) (b : Back) :
    reverseAll ((ls ++ [(l, pre)]).reverse) b = (l.reverse pre b).bind (reverseAll ls.reverse) := by
  rw [List.reverse_append, List.reverse_singleton, List.singleton_append, reverseAll]
  cases l.reverse pre b <;> rfl

/-- cache layers pass every inverse value on unchanged -/
theorem cache_layers_transparent (l : Layer) (pre : Sig) (b : Back) (h : l.kind = .cache) : l.reverse pre b = some b := by
  simp [Layer.reverse, h]

/-- the names a reversed (non-cache) layer returns: its own inverse fields, then what it inherits backwards -/
theorem reverse_shape {l : Layer} {pre : Sig} {b b' : Back} (hk : l.kind ≠ .cache) (h : l.reverse pre b = some b') :
    ∃ own : Back, own.map (·.1) = l.inverses.map (·.1) ∧
      b' = own ++ b.filter fun p => l.backInherit.mem p.1 && !(own.any (·.1 == p.1)) := by
  unfold Layer.reverse at h
  split at h
  · exact absurd ‹_› hk
  · obtain ⟨own, hown, rfl⟩ := Option.map_eq_some_iff.1 h
    refine ⟨own, mapM_keys (fun p y hy => ?_) hown, rfl⟩
    obtain ⟨n, d⟩ := p
    cases d with
    | fn f args => obtain ⟨e, _, rfl⟩ := Option.map_eq_some_iff.1 hy; rfl
    | identity a | const v => cases hy; rfl

/-- **A name without an inverse path is rejected.**  If a layer neither inverts `n` nor inherits it backwards, `n` is
absent after that layer, whatever came in: it can never be returned un-inverted. -/
theorem missing_inverse_dropped (l : Layer) (pre : Sig) (b b' : Back) (n : String) (hk : l.kind ≠ .cache)
    (h : l.reverse pre b = some b') (hinv : n ∉ l.inverses.map (·.1)) (hinh : l.backInherit.mem n = false) :
    b'.get n = none := by
  obtain ⟨own, hnames, rfl⟩ := reverse_shape hk h
  apply lookupAssoc_eq_none_iff.2
  simp only [List.map_append, List.mem_append, not_or]
  refine ⟨by rw [hnames]; exact hinv, ?_⟩
  intro hm
  simp only [List.mem_map, List.mem_filter] at hm
  obtain ⟨p, ⟨_, hp⟩, rfl⟩ := hm
  simp [hinh] at hp

/-- **Inherited inverse names pass through unchanged** when the layer has no inverse of its own for them -/
theorem inherited_pass_through (l : Layer) (pre : Sig) (b b' : Back) (n : String) (hk : l.kind ≠ .cache)
    (h : l.reverse pre b = some b') (hinv : n ∉ l.inverses.map (·.1)) (hinh : l.backInherit.mem n = true) :
    b'.get n = b.get n := by
  obtain ⟨own, hnames, rfl⟩ := reverse_shape hk h
  have hown : n ∉ own.map (·.1) := hnames ▸ hinv
  rw [Back.get, lookupAssoc_append, lookupAssoc_eq_none_iff.2 hown]
  refine lookupAssoc_filter fun q _ hq => ?_
  rw [hq, hinh, Bool.true_and, Bool.not_eq_true', List.any_eq_false]
  exact fun p hp hpk => hown (List.mem_map.2 ⟨p, hp, eq_of_beq hpk⟩)

/-- **The layer's own inverse wins** over backward inheritance of the same name (a name listed in `__inherit__` that
also has an `@inverse` is inverted, not passed through) -/
theorem own_inverse_wins (l : Layer) (pre : Sig) (b b' : Back) (n : String) (hk : l.kind ≠ .cache)
    (h : l.reverse pre b = some b') (hinv : n ∈ l.inverses.map (·.1)) :
    ∃ own : Back, own.map (·.1) = l.inverses.map (·.1) ∧ b'.get n = own.get n ∧ (own.get n).isSome := by
  obtain ⟨own, hnames, rfl⟩ := reverse_shape hk h
  have hs : (own.get n).isSome := Option.isSome_iff_ne_none.2 fun hn => lookupAssoc_eq_none_iff.1 hn (hnames ▸ hinv)
  obtain ⟨e, he⟩ := Option.isSome_iff_exists.1 hs
  refine ⟨own, hnames, ?_, hs⟩
  rw [Back.get] at he
  rw [Back.get, lookupAssoc_append, Back.get, he]
  rfl

/-- a layer `x = shift(x)` with the inverse `unshift(x)` -/
def exShift : Layer :=
  { index := 0, kind := .transform, defs := [("x", .fn "shift" ["x"])], params := [], opt := [],
    persistent := [], inherit := .fin [], inheritIsList := true, cacheNames := none,
    inverses := [("x", .fn "unshift" ["x"])], backInherit := .fin [] }

/-- a layer `x = scale(x, _k)` with the parameter `_k = 2` and the inverse `unscale(x, _k)` -/
def exScale : Layer :=
  { index := 1, kind := .transform, defs := [("x", .fn "scale" ["x", "_k"])],
    params := [("_k", Param.const (.int 2))],
    opt := [], persistent := [], inherit := .fin [], inheritIsList := true, cacheNames := none,
    inverses := [("x", .fn "unscale" ["x", "_k"])], backInherit := .fin [] }

/-- non-vacuity: Shift, then Scale, decorated around `F`: `unshift(unscale(F(scale(shift(x), 2)), 2))` -/
example :
    (match loopback [exShift, exScale] "F" ["x"] ["x"] ["x"] true with
      | .ok [(_, .term (.app "unshift" [.app "unscale" [.app "F" [.app "scale" [.app "shift" [.inp "x"], .const (.int 2)]], .const (.int 2)]]))] => true
      | _ => false) = true := by decide +kernel

/-! ## Node level: `EdgesBag.loopback`, `BagContext.reverse`, `ChainContext.reverse` -/

/-- the decorated graph (`EdgesBag.loopback`): the forward bag connected with the bag of `f`, and what its context returns -/
theorem loopback_shape (b fb r : Bag) (h : b.loopbackWith fb = .ok r) :
    ∃ state es, connectBags b fb = .ok state ∧ Decorated state r es :=
  Decorated.of_loopback h

/-- **Node level: the outputs of a decorated function.**  The names `layer._decorate(...)(f)` can return are obtained from
the outputs of `f` by the backward pass of the layers' contexts, the later layer first (`BCtx.backNames`); they depend on
names only. -/
theorem node_loopback_outputs (b fb r : Bag) (h : b.loopbackWith fb = .ok r) :
    ∃ state, connectBags b fb = .ok state ∧ state.ctx.backNames (names state.outputs) = some (names r.outputs) := by
  obtain ⟨state, es, hst, hd⟩ := loopback_shape b fb r h
  obtain ⟨_, _, hrev⟩ := hd.rev
  exact ⟨state, hst, reverse_names _ _ _ _ _ _ _ hrev⟩

/-- **Node level: no inverse path, no output.**  Every output name of the decorated graph has an inverse path through the
context of every layer: each layer either has an inverse field of that name or inherits the name backwards from the layers
after it.  A name without such a path is not an output (asking for it raises `FieldError`): it is never returned un-inverted. -/
theorem node_no_inverse_path_rejected (b fb r : Bag) (h : b.loopbackWith fb = .ok r) (x : String)
    (hx : x ∈ names r.outputs) :
    ∃ state, connectBags b fb = .ok state ∧ state.ctx.HasPath (names state.outputs) x := by
  obtain ⟨state, hst, hn⟩ := node_loopback_outputs b fb r h
  exact ⟨state, hst, backNames_path _ _ _ x hn hx⟩

/-- **Node level: the backward pass adds only identity edges** (stitches from what came in to the backward inputs of a
layer, pass-through clones for inherited names): every function of the decorated graph is an edge of the forward
pipeline, of `f`, or of a layer's inverse fields, so each runs at most once per call (C03 `at_most_once`). -/
theorem node_loopback_edges (b fb r : Bag) (h : b.loopbackWith fb = .ok r) :
    ∃ state, connectBags b fb = .ok state ∧
      ∀ e ∈ r.edges, e ∈ state.edges ∨ StitchOrPass e := by
  obtain ⟨state, es, hst, hd⟩ := loopback_shape b fb r h
  obtain ⟨_, _, hrev⟩ := hd.rev
  refine ⟨state, hst, fun e hmem => ?_⟩
  rw [hd.edges] at hmem
  exact (List.mem_append.1 hmem).imp_right (reverse_edges hrev e)

/-- the later layer is reversed first: what reaches the earlier layers is what the later layer returns -/
theorem node_reverse_order (p c : BCtx) (ns : List String) :
    (BCtx.chain p c).backNames ns = (c.backNames ns).bind p.backNames := chain_order p c ns

/-- a layer that neither inverts nor inherits a name drops it, whatever came in; an earlier layer can only produce the name
again through an inverse field of its own -/
theorem node_layer_drops (p : BCtx) (inputs outputs : List BNode) (inherit : NameSet) (ns res : List String) (x : String)
    (h : (BCtx.chain p (.bag inputs outputs inherit)).backNames ns = some res)
    (hno : x ∉ names outputs) (hni : inherit.mem x = false) :
    ∃ mid, x ∉ mid ∧ p.backNames mid = some res := by
  obtain ⟨mid, hc, h⟩ := Option.bind_eq_some_iff.1 h
  exact ⟨mid, bag_drops hc hno hni, h⟩

/-- non-vacuity (a test): a layer inverting `a` and inheriting nothing, after a layer inheriting everything: from `[a, b]`
only `a` comes out -/
example :
    (BCtx.chain (.bag [] [] .all) (.bag [⟨7, "a"⟩] [⟨8, "a"⟩] (.fin []))).backNames ["a", "b"] = some ["a"] := by
  decide +kernel

/-! ## Node level: what the decorated graph computes (`CM.Proofs.LoopbackDen`) -/

/-- **Node level: the forward pass and `f` are not disturbed by the decoration.**  In the decorated graph every node that is not
downstream of an edge the backward pass added computes exactly what it computes in `pipeline >> f` (`connectBags b fb`): the
forward fields through the layers in order, then `f` (C02 `node_connect_step` says what those are). -/
theorem node_loopback_forward_unchanged (b fb r : Bag) (h : b.loopbackWith fb = .ok r) :
    ∃ state es, connectBags b fb = .ok state ∧ r.edges = state.edges ++ es ∧
      ∀ n, ¬ Down r.edges (es.map (·.out)) n → ∀ t, BDen r n t ↔ BDen state n t := by
  obtain ⟨state, es, hst, hd⟩ := loopback_shape b fb r h
  exact ⟨state, es, hst, hd.edges, fun n hn t => hd.forward hn t⟩

/-- **Node level: the inverses run in reverse order, each on what the later one returned.**  `Feeds ctx outs next n o`: reversing
the chain's context on the outputs of `f`, the backward input `n` of a layer is fed by `o` - for the LAST layer the output of `f`
of the same name, for an earlier layer the node of that name the later layers' backward pass returned (the later layer's inverse
output, or the pass-through of a name it inherits).  In the decorated graph `n` computes exactly what `o` computes: so an inverse
field (a function edge over backward inputs and the layer's own forward parameters, `C02.node_factory_field`) is applied to the
results of the inverses of the layers after it. -/
theorem node_loopback_backward_input (b fb r : Bag) (h : b.loopbackWith fb = .ok r) :
    ∃ state, connectBags b fb = .ok state ∧
      ∀ n o, Feeds state.ctx state.outputs state.next n o → n ∉ r.inputs → ∀ t, BDen r n t ↔ BDen r o t := by
  obtain ⟨state, es, hst, hd⟩ := loopback_shape b fb r h
  exact ⟨state, hst, fun n o hf hn t => hd.feeds hf hn t⟩

/-- the last layer's backward inputs compute what `f` returns under their names (when `f`'s outputs are not downstream of the
backward pass, which holds for containers built by the factory: backward inputs are read by inverse edges only) -/
theorem node_loopback_last_layer_input (b fb r : Bag) (h : b.loopbackWith fb = .ok r) :
    ∃ state es, connectBags b fb = .ok state ∧ r.edges = state.edges ++ es ∧
      ∀ n o, Feeds state.ctx state.outputs state.next n o → n ∉ r.inputs → ¬ Down r.edges (es.map (·.out)) o →
        ∀ t, BDen r n t ↔ BDen state o t := by
  obtain ⟨state, es, hst, hd⟩ := loopback_shape b fb r h
  exact ⟨state, es, hst, hd.edges, fun n o hf hn ho t => (hd.feeds hf hn t).trans (hd.forward ho t)⟩

/-- non-vacuity (a test): two layers, the later one inverting `a`: reversing on what `f` returned (node 20), the later layer's backward
input 7 is fed by node 20 and the earlier layer's backward input 3 by the later layer's inverse output 8 -/
example :
    Feeds (.chain (.bag [⟨3, "a"⟩] [⟨4, "a"⟩] (.fin [])) (.bag [⟨7, "a"⟩] [⟨8, "a"⟩] (.fin []))) [⟨20, "a"⟩] 30 ⟨7, "a"⟩ ⟨20, "a"⟩ ∧
    Feeds (.chain (.bag [⟨3, "a"⟩] [⟨4, "a"⟩] (.fin [])) (.bag [⟨7, "a"⟩] [⟨8, "a"⟩] (.fin []))) [⟨20, "a"⟩] 30 ⟨3, "a"⟩ ⟨8, "a"⟩ :=
  ⟨.later (.bag (.head _) rfl),
   .earlier (o1 := [⟨8, "a"⟩]) (e1 := [identityEdge ⟨20, "a"⟩ ⟨7, "a"⟩]) (p1 := []) (n1 := 30) rfl (.bag (.head _) rfl)⟩

/-- **Node level: inherited inverse names pass through unchanged.**  When a layer inherits a name backwards and has no inverse field
of that name, the node `Context.reverse` hands on under that name (`Passes`: the fresh clone `c` of the incoming node `n`) computes, in
the decorated graph, exactly what `n` computes - the value is returned un-inverted BY THAT LAYER only because the layer declares the
inheritance; `node_no_inverse_path_rejected` shows that without it the name is dropped. -/
theorem node_loopback_pass_through (b fb r : Bag) (h : b.loopbackWith fb = .ok r) :
    ∃ state, connectBags b fb = .ok state ∧
      ∀ n c, Passes state.ctx state.outputs state.next n c → c ∉ r.inputs → ∀ t, BDen r c t ↔ BDen r n t := by
  obtain ⟨state, es, hst, hd⟩ := loopback_shape b fb r h
  exact ⟨state, hst, fun n c hp hc t => hd.passes hp hc t⟩

/-- a layer that inherits the name and does not invert it hands the incoming node on (non-vacuity of `Passes`) -/
theorem node_layer_passes (bi bo : List BNode) (inh : NameSet) (outs : List BNode) (next : Nat) (n : BNode) (hn : n ∈ outs)
    (hi : inh.mem n.name = true) (hb : (names bo).contains n.name = false) :
    ∃ c, c.name = n.name ∧ Passes (.bag bi bo inh) outs next n c :=
  bag_pass_exists bi bo inh outs next n hn hi hb

/-- **Node level: the last layer's inverse sees what `f` returned.**  The usual shape `layer._decorate(...)(f)`: the context of `f`
hands its output `o` on as the clone `c` (`Passes`), the layer's backward input `n` of the same name is stitched to `c` (`Feeds`): in
the decorated graph `n` computes exactly what `o` computes in `pipeline >> f`. -/
theorem node_decorated_input_is_f_output (b fb r : Bag) (h : b.loopbackWith fb = .ok r) :
    ∃ state es, connectBags b fb = .ok state ∧ r.edges = state.edges ++ es ∧
      ∀ n c o, Feeds state.ctx state.outputs state.next n c → Passes state.ctx state.outputs state.next o c →
        n ∉ r.inputs → c ∉ r.inputs → ¬ Down r.edges (es.map (·.out)) o → ∀ t, BDen r n t ↔ BDen state o t := by
  obtain ⟨state, es, hst, hd⟩ := loopback_shape b fb r h
  exact ⟨state, es, hst, hd.edges, fun n c o hf hp => hd.through hf hp⟩

/-- non-vacuity (a test): one layer inverting `a`, decorated around an `f` returning `a` (node 20): the clone 30 of `f`'s output is
handed on by the context of `f` and feeds the layer's backward input 7 -/
example :
    Passes (.chain (.bag [⟨7, "a"⟩] [⟨8, "a"⟩] (.fin [])) (.bag [] [] (.fin ["a"]))) [⟨20, "a"⟩] 30 ⟨20, "a"⟩ ⟨30, "a"⟩ ∧
    Feeds (.chain (.bag [⟨7, "a"⟩] [⟨8, "a"⟩] (.fin [])) (.bag [] [] (.fin ["a"]))) [⟨20, "a"⟩] 30 ⟨7, "a"⟩ ⟨30, "a"⟩ :=
  ⟨.later (.bag (List.mem_singleton.2 rfl) (List.mem_singleton.2 rfl)),
   .earlier (o1 := [⟨30, "a"⟩]) (e1 := [identityEdge ⟨20, "a"⟩ ⟨30, "a"⟩]) (p1 := [⟨30, "a"⟩]) (n1 := 31) rfl (.bag (.head _) rfl)⟩

/-- **Node level, from the class body: what an inverse field's backward argument receives.**  For a layer built by the factory, the node of
the public argument `a` of an inverse field is fed, when the layer's context is reversed on the nodes `outs` that came in, by the node of `outs`
named `a` (`Feeds`) - so (`node_loopback_backward_input`) in the decorated graph the inverse is applied to what came back under the
names of its arguments, and (`C02.node_factory_field` for private arguments) to the layer's own forward parameters. -/
theorem node_factory_layer_feeds {r : RawLayer} {b : Bag} (h : r.factory = .ok b) (a : String) (n o : BNode)
    (hn : nodeAt r.layout.biBase r.layout.backIn a = some n) (outs : List BNode) (next : Nat) (ho : byName outs a = some o) :
    Feeds b.ctx outs next n o := by
  obtain ⟨back, hctx⟩ := factory_ctx h
  rw [hctx]
  obtain ⟨i, _, rfl⟩ := nodeAt_some hn
  exact .bag (nodeAt_mem hn) ho

/-- **Node level: `layer._decorate(...)(f)` for one layer - the inverse sees what `f` returned.**  Let the state `pipeline >> f` have the context
`ChainContext(layer, f)` with the layer's `BagContext(bi, bo, inh)` and the context of the wrapped function (which inherits the names `inhf` it
returns), and let its outputs have pairwise different names.  For every backward input `n` of the layer whose name `f` returns (`o` is that
output of the state), the decorated graph feeds `n` from `o` through the clone the function's context hands on: `n` computes exactly what `o`
computes in `pipeline >> f` - for every well-formed pipeline and every `f`, no feeding relation assumed. -/
theorem node_decorated_layer_input (b fb r : Bag) (h : b.loopbackWith fb = .ok r) :
    ∃ state es, connectBags b fb = .ok state ∧ r.edges = state.edges ++ es ∧
      ∀ (bi bo : List BNode) (inh inhf : NameSet) (n o : BNode),
        state.ctx = .chain (.bag bi bo inh) (.bag [] [] inhf) → (names state.outputs).Nodup →
        n ∈ bi → o ∈ state.outputs → o.name = n.name → inhf.mem n.name = true →
        ∃ c, c.name = n.name ∧ (n ∉ r.inputs → c ∉ r.inputs → ¬ Down r.edges (es.map (·.out)) o → ∀ t, BDen r n t ↔ BDen state o t) := by
  obtain ⟨state, es, hst, hd⟩ := loopback_shape b fb r h
  refine ⟨state, es, hst, hd.edges, fun bi bo inh inhf n o hctx _ hn ho hname hinh => ?_⟩
  obtain ⟨c, hcn, _, hf, hp⟩ := hd.last_input (l := ⟨bi, bo, inh⟩) (rest := []) hctx hn ho hname hinh
  exact ⟨c, hcn, hd.through hf hp⟩

/-- **Node level: the decorated function returns the inverse applied to its arguments.**  An edge of `pipeline >> f` (an inverse field of a layer:
a function edge) whose output is an output of the decorated graph computes there its function over whatever its argument nodes compute there -
`node_decorated_layer_input` says what that is for the backward inputs (what `f` returned), `node_loopback_forward_unchanged` for the layer's own
forward parameters (what they computed in the forward pass): together `inverse(f(forward fields), forward parameters)`. -/
theorem node_decorated_field (b fb r : Bag) (h : b.loopbackWith fb = .ok r) :
    ∃ state es, connectBags b fb = .ok state ∧ r.edges = state.edges ++ es ∧
      ∀ (e : BEdge) (ts : List BTerm), e ∈ state.edges → e.edge ≠ .identity → e.out ∈ r.outputs → e.out ∉ r.inputs →
        e.ins.length = ts.length → (∀ q ∈ e.ins.zip ts, BDen r q.1 q.2) → r.Field e.out.name (.node e.edge ts) := by
  obtain ⟨state, es, hst, hd⟩ := loopback_shape b fb r h
  exact ⟨state, es, hst, hd.edges, fun e ts hmem hk hout hni hlen hargs =>
    ⟨e.out, hout, rfl, .edge e hni (hd.edges ▸ List.mem_append_left _ hmem) rfl hk hlen hargs⟩⟩

/-- the inverse fields of the first layer are outputs of the decorated graph -/
theorem node_decorated_outputs (b fb r : Bag) (h : b.loopbackWith fb = .ok r) :
    ∃ state, connectBags b fb = .ok state ∧
      ∀ (bi bo : List BNode) (inh : NameSet) (c : BCtx), state.ctx = .chain (.bag bi bo inh) c → ∀ n ∈ bo, n ∈ r.outputs := by
  obtain ⟨state, es, hst, hd⟩ := loopback_shape b fb r h
  exact ⟨state, hst, fun bi bo inh c => hd.first_outputs⟩

/-- `node_decorated_layer_input` with the position of the clone: it is a fresh node (at or above the counter of the state), so it is no input of
the decorated graph as soon as the inputs lie below the counter (which `Bag.WF` of the state says) -/
theorem node_decorated_layer_input_fresh (b fb r : Bag) (h : b.loopbackWith fb = .ok r) :
    ∃ state es, connectBags b fb = .ok state ∧ r.edges = state.edges ++ es ∧ r.inputs = state.inputs ∧
      ∀ (bi bo : List BNode) (inh inhf : NameSet) (n o : BNode),
        state.ctx = .chain (.bag bi bo inh) (.bag [] [] inhf) → (names state.outputs).Nodup →
        n ∈ bi → o ∈ state.outputs → o.name = n.name → inhf.mem n.name = true →
        (∀ m ∈ state.inputs, m.id < state.next) → n ∉ r.inputs → ¬ Down r.edges (es.map (·.out)) o → ∀ t, BDen r n t ↔ BDen state o t := by
  obtain ⟨state, es, hst, hd⟩ := loopback_shape b fb r h
  exact ⟨state, es, hst, hd.edges, hd.inputs, fun bi bo inh inhf n o hctx _ =>
    hd.last_input_fresh (l := ⟨bi, bo, inh⟩) (rest := []) hctx⟩

/-- a layer `def a(a): ...; @inverse def a(a): ...` written as a container: input 0, forward output 1, backward input 2, backward output 3 -/
def exLayerBag : Bag :=
  { inputs := [⟨0, "a"⟩], outputs := [⟨1, "a"⟩],
    edges := [{ edge := .function "L.a" [] [], ins := [⟨0, "a"⟩], out := ⟨1, "a"⟩ },
              { edge := .function "L.inv.a" [] [], ins := [⟨2, "a"⟩], out := ⟨3, "a"⟩ }],
    virt := .fin [], persistent := [], optional := [], ctx := .bag [⟨2, "a"⟩] [⟨3, "a"⟩] (.fin []), next := 4 }

/-- non-vacuity (a test): the layer above decorated around `f(a) -> a`: the decorated graph exists, its output `a` is the layer's backward output,
and the executable term function (`Bag.term`, sound by `term_sound`) computes `L.inv.a(F(L.a(a)))` for it: forward, then `f`, then the inverse -/
example :
    (match functionToBag "F" ["a"] ["a"] true with
     | .ok fb =>
       (match exLayerBag.loopbackWith fb with
        | .ok r => r.outputs.map (·.name) == ["a"] &&
            (match r.outputs.map fun o => r.term 20 o with
             | [some (.node (.function "L.inv.a" [] []) [.node (.function "F" [] []) [.node (.function "L.a" [] []) [.inp "a"]]])] => true
             | _ => false)
        | .error _ => false)
     | .error _ => false) = true := by
  decide +kernel

/-- a second layer of the same shape with other functions -/
def exLayerBag2 : Bag :=
  { inputs := [⟨0, "a"⟩], outputs := [⟨1, "a"⟩],
    edges := [{ edge := .function "M.a" [] [], ins := [⟨0, "a"⟩], out := ⟨1, "a"⟩ },
              { edge := .function "M.inv.a" [] [], ins := [⟨2, "a"⟩], out := ⟨3, "a"⟩ }],
    virt := .fin [], persistent := [], optional := [], ctx := .bag [⟨2, "a"⟩] [⟨3, "a"⟩] (.fin []), next := 4 }

/-- non-vacuity (a test): two layers, `L` then `M`, decorated around `f`: forward `L.a`, `M.a`, then `f`, then the inverses in REVERSE order -
`L.inv.a(M.inv.a(F(M.a(L.a(a)))))` -/
example :
    (match connectBags exLayerBag exLayerBag2, functionToBag "F" ["a"] ["a"] true with
     | .ok chain, .ok fb =>
       (match chain.loopbackWith fb with
        | .ok r =>
            (match r.outputs.map fun o => r.term 40 o with
             | [some (.node (.function "L.inv.a" [] []) [.node (.function "M.inv.a" [] []) [.node (.function "F" [] [])
                  [.node (.function "M.a" [] []) [.node (.function "L.a" [] []) [.inp "a"]]]]])] => true
             | _ => false)
        | .error _ => false)
     | _, _ => false) = true := by
  decide +kernel

/-- what an argument node of an inverse field computes in the decorated graph, given what the nodes of `pipeline >> f` compute: a backward input of
the layer computes what `f` returned under its name; any other node that is not downstream of the backward pass (a private parameter of the layer,
computed in the forward pass) computes what it computed there -/
inductive InvArg (state r : Bag) (es : List BEdge) (bi : List BNode) (inhf : NameSet) : BNode → BTerm → Prop
  | back {n o t} : n ∈ bi → n ∉ state.inputs → o ∈ state.outputs → o.name = n.name → inhf.mem n.name = true →
      ¬ Down r.edges (es.map (·.out)) o → BDen state o t → InvArg state r es bi inhf n t
  | fwd {n t} : ¬ Down r.edges (es.map (·.out)) n → BDen state n t → InvArg state r es bi inhf n t

/-- **Node level: one decorated layer, every shape of inverse.**  `layer._decorate(...)(f)`: an inverse field of the layer - the edge `e` over
backward inputs and the layer's own private parameters, in any number and order - is an output of the decorated graph and computes its function
over: what `f` returned under the names of its backward inputs, and its private parameters AS COMPUTED IN THE FORWARD PASS (`InvArg`).  Forward
through the layer, then `f`, then the inverse, the inverse seeing the parameters of its own layer - for every well-formed pipeline and `f`. -/
theorem node_decorated_inverse (b fb r : Bag) (h : b.loopbackWith fb = .ok r) :
    ∃ state es, connectBags b fb = .ok state ∧ r.edges = state.edges ++ es ∧
      ∀ (bi bo : List BNode) (inh inhf : NameSet) (e : BEdge) (ts : List BTerm),
        state.ctx = .chain (.bag bi bo inh) (.bag [] [] inhf) → (names state.outputs).Nodup → (∀ m ∈ state.inputs, m.id < state.next) →
        e ∈ state.edges → e.edge ≠ .identity → e.out ∈ bo → e.out ∉ state.inputs → e.ins.length = ts.length →
        (∀ q ∈ e.ins.zip ts, InvArg state r es bi inhf q.1 q.2) →
        r.Field e.out.name (.node e.edge ts) := by
  obtain ⟨state, es, hst, hd⟩ := loopback_shape b fb r h
  refine ⟨state, es, hst, hd.edges, fun bi bo inh inhf e ts hctx _ hlt hmem hk hout hoi hlen hargs => ?_⟩
  refine ⟨e.out, hd.first_outputs hctx _ hout, rfl,
    .edge e (hd.inputs ▸ hoi) (hd.edges ▸ List.mem_append_left _ hmem) rfl hk hlen fun q hq => ?_⟩
  cases hargs q hq with
  | back hn hni ho hname hinh hdn hden =>
    exact (hd.last_input_fresh (l := ⟨bi, bo, inh⟩) (rest := []) hctx hn ho hname hinh hlt (hd.inputs ▸ hni) hdn _).2 hden
  | fwd hdn hden => exact (hd.forward hdn _).2 hden

/-- **Node level: one layer with a one-argument inverse, in closed form.**  `layer._decorate(x, x)(f)`: if the layer's inverse field `x` is the edge
`e` over its backward input `n` alone, and `f`'s output `x` computes `t` in `pipeline >> f`, then the decorated graph exposes `x` computing
`inverse(t)` - forward through the layer, then `f`, then the inverse - for every well-formed pipeline, every `f`, every input. -/
theorem node_decorated_single_inverse (b fb r : Bag) (h : b.loopbackWith fb = .ok r) :
    ∃ state es, connectBags b fb = .ok state ∧ r.edges = state.edges ++ es ∧
      ∀ (bi bo : List BNode) (inh inhf : NameSet) (e : BEdge) (n o : BNode) (t : BTerm),
        state.ctx = .chain (.bag bi bo inh) (.bag [] [] inhf) → (names state.outputs).Nodup → (∀ m ∈ state.inputs, m.id < state.next) →
        e ∈ state.edges → e.edge ≠ .identity → e.ins = [n] → e.out ∈ bo → e.out ∉ state.inputs →
        n ∈ bi → n ∉ state.inputs → o ∈ state.outputs → o.name = n.name → inhf.mem n.name = true →
        ¬ Down r.edges (es.map (·.out)) o → BDen state o t →
        r.Field e.out.name (.node e.edge [t]) := by
  obtain ⟨state, es, hst, he, hinv⟩ := node_decorated_inverse b fb r h
  refine ⟨state, es, hst, he, fun bi bo inh inhf e n o t hctx hnd hlt hmem hk hins hout hoi hn hni ho hname hinh hdn hden => ?_⟩
  refine hinv bi bo inh inhf e [t] hctx hnd hlt hmem hk hout hoi (by rw [hins]; rfl) fun q hq => ?_
  rw [hins] at hq
  cases List.mem_singleton.1 hq
  exact .back hn hni ho hname hinh hdn hden

/-- **Node level: two layers - the earlier layer's inverse receives what the later layer's inverse returned.**  For the context
`ChainContext(ChainContext(L1, L2), f)`: reversing it, the backward input `n` of the EARLIER layer `L1` is fed by the backward output `o2` of the
LATER layer `L2` that has its name (`L2` has an inverse field of that name).  In the decorated graph `n` computes exactly what `o2` computes:
the inverses run in reverse order, each on the result of the one after it.  None of the three `Nodup` hypotheses is used (`Decorated.adjacent`
has none): the chain was reversed, and a layer returns its own backward outputs before the clones of the names it inherits. -/
theorem node_two_layers_reverse_order (b fb r : Bag) (h : b.loopbackWith fb = .ok r) :
    ∃ state, connectBags b fb = .ok state ∧
      ∀ (bi1 bo1 bi2 bo2 : List BNode) (inh1 inh2 inhf : NameSet) (n o2 : BNode),
        state.ctx = .chain (.chain (.bag bi1 bo1 inh1) (.bag bi2 bo2 inh2)) (.bag [] [] inhf) →
        (names state.outputs).Nodup → (names bo2).Nodup →
        ((names bo2) ++ names (cloneEdges false (state.outputs.filter fun m => inhf.mem m.name && !(names []).contains m.name) state.next).1 |>.Nodup) →
        n ∈ bi1 → o2 ∈ bo2 → o2.name = n.name → n ∉ r.inputs →
        ∀ t, BDen r n t ↔ BDen r o2 t := by
  obtain ⟨state, es, hst, hd⟩ := loopback_shape b fb r h
  exact ⟨state, hst, fun bi1 bo1 bi2 bo2 inh1 inh2 inhf n o2 hctx _ _ _ hn ho2 hname =>
    hd.adjacent (pre := []) (later := ⟨bi2, bo2, inh2⟩) (l := ⟨bi1, bo1, inh1⟩) (post := []) hctx hn ho2 hname⟩

end CM.C10
