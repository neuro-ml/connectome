/-
  C09 — Chaining is associative and never mutates or couples its operands.
  The model is purely functional, so non-mutation is a matter of the correspondence (S-ALIAS re-observes every
  operand and every earlier pipeline after each composition); the theorems here are about bracketing.
-/
import CM.Model.Pipe
namespace CM.C09
open CM

theorem flattenList_append (ps qs : List Pipe) :
    Pipe.flattenList (ps ++ qs) = Pipe.flattenList ps ++ Pipe.flattenList qs := by
  induction ps with
  | nil => simp [Pipe.flattenList]
  | cons p ps ih => simp [Pipe.flattenList, ih, List.append_assoc]

/-- Re-bracketing: a nested group of any flavour contributes exactly its members, in order. -/
theorem flatten_nested (fl fl' : Flavour) (ps qs rs : List Pipe) :
    (Pipe.group fl (ps ++ [Pipe.group fl' qs] ++ rs)).flatten = (Pipe.group fl (ps ++ qs ++ rs)).flatten := by
  simp [Pipe.flatten, flattenList_append, Pipe.flattenList]

/-- The flavour of a chain (`>>`, `Chain`, `LazyChain`) does not matter. -/
theorem flatten_flavour (fl fl' : Flavour) (ps : List Pipe) :
    (Pipe.group fl ps).flatten = (Pipe.group fl' ps).flatten := by
  simp [Pipe.flatten]

/-- **Associativity.**  Any two bracketings / chain flavours of the same layer sequence expose the same
fields, signatures, values and the same class of error. -/
theorem assoc (p q : Pipe) (h : p.flatten = q.flatten) : p.sig = q.sig := by
  simp [Pipe.sig, h]

theorem assoc_nested (fl fl' : Flavour) (ps qs rs : List Pipe) :
    (Pipe.group fl (ps ++ [Pipe.group fl' qs] ++ rs)).sig = (Pipe.group fl (ps ++ qs ++ rs)).sig :=
  assoc _ _ (flatten_nested fl fl' ps qs rs)

/-- Only the observable state of the prefix matters to what follows (congruence of connection):
the stack `xs ++ ys` is `ys` applied to the state after `xs`. -/
theorem sig_append (xs ys : List Layer) :
    sigOf (xs ++ ys) = (sigOf xs).bind fun s => ys.foldlM Sig.step s := by
  rw [sigOf, List.foldlM_append]
  rfl

/-- non-vacuity: three layers, two bracketings -/
example :
    let a : RawLayer := { k := "transform", cls := "A", fields := [{ name := "x", f := "A.x", args := ["i"] }] }
    let b : RawLayer := { k := "transform", cls := "B", fields := [{ name := "y", f := "B.y", args := ["x"] }] }
    let c : RawLayer := { k := "transform", cls := "C", fields := [{ name := "z", f := "C.z", args := ["y"] }] }
    (Pipe.group .chain [.group .rshift [.layer a, .layer b], .layer c]).flatten.length = 3 ∧
    (Pipe.group .chain [.group .rshift [.layer a, .layer b], .layer c]).flatten.map (·.cls) =
      (Pipe.group .chain [.layer a, .group .lazy [.layer b, .layer c]]).flatten.map (·.cls) := by
  decide

end CM.C09
