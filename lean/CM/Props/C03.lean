/-
  C03 — One call evaluates each needed function exactly once and nothing else.

  Proved here, for every well-formed cache-free graph, every input and every fault schedule:

    * `at_most_once`: started with an empty log, a call of the compiled function (returning or raising) logs at most
      one user-function call per node.  This is the eviction-counter invariant with ghost completion flags
      (`CM.Proofs.OnceC.Returns.inv`): a generator of a node runs to completion at most once, because its memo entry
      stays in the scratch table while any child may still ask for it (`counts = 2 × paths` never runs out), and a
      node issues its call either from its hash generator (hash-by-value / impure wrappers) or from its value
      generator (plain functions), never from both.
    * `shared_intermediate`: the value of a product node is the tuple of the denotations of its parents: all
      requested fields see the same value of every shared node, impure ones included (their value carries the
      number of the call and the node, so a separate call produces a different value).

    * `only_needed`: every logged call was made on behalf of a node one of whose generators the cache-free evaluation
      of the requested output demands (`Need`, the closure of "the program of a demanded generator, run against the
      denotation's answers with every cache lookup a miss, issues this request").  `merge_branches`: a Merge
      (`SwitchEdge`) demands the key and the hash / value of the branch the key routes to, and no other branch.  With
      cache edges the machine executes a subset (a hit asks for nothing upstream).

    * `all_needed`: conversely, on a cache-free graph, when the call returns every user function that this evaluation
      demands is in the log (`CM.Proofs.Exactly.Returns.exact`: whatever is memoised has been fully evaluated).  Hence
      exactly the needed functions, each exactly once.
-/
import CM.Props.C01
import CM.Proofs.Needed
import CM.Proofs.Exactly
namespace CM.C03
open CM

/-- **At most once.** -/
theorem at_most_once (g : Graph) (ok : GraphOK g) (env : String → Option Val) (w : World) (hc : CallOK g env) (hlog : w.log = []) :
    ∃ N o steps, (∀ fuel, N ≤ fuel → g.call env w fuel = some (o, steps)) ∧ ∀ j, calls o.mem j ≤ 1 :=
  call_once g ok env w hc hlog

/-- **At most once, with cache edges** (part of `FullSpec`): also when some values are served from caches. -/
theorem at_most_once_cached (F : Fam) (g : Graph) (ok : GraphOKC g) (env : String → Option Val) (w : World) (hc : CallOK g env)
    (hF : F g (denCfgOf env w)) (hst : StoreSound F w) (hlog : w.log = []) :
    ∃ N o steps, (∀ fuel, N ≤ fuel → g.call env w fuel = some (o, steps)) ∧ ∀ j, calls o.mem j ≤ 1 := by
  obtain ⟨N, o, steps, h1, h2⟩ := call_correct_c F g ok env w hc hF hst hlog
  exact ⟨N, o, steps, h1, h2.2.2⟩

/-- **Only what is needed runs** (returning or raising, with or without cache edges). -/
theorem only_needed (F : Fam) (g : Graph) (ok : GraphOKC g) (env : String → Option Val) (w : World) (hc : CallOK g env)
    (hF : F g (denCfgOf env w)) (hst : StoreSound F w) (hlog : w.log = []) (fuel steps : Nat) (o : Outcome)
    (hrun : g.call env w fuel = some (o, steps)) :
    ∀ r ∈ o.mem.world.log, ∃ hp, Need g (denCfgOf env w) (false, g.output) hp r.node :=
  call_needed F g ok env w hc (fun _ => hF) hst (by simp [hlog]) fuel steps o hrun

/-- **Everything needed runs** (cache-free graphs, returning calls). -/
theorem all_needed (g : Graph) (ok : GraphOK g) (env : String → Option Val) (w : World) (hc : CallOK g env)
    (fuel steps : Nat) (x : Item) (s : St) (hrun : g.call env w fuel = some (.done x s, steps)) :
    ∀ hp n, Need g (denCfgOf env w) (false, g.output) hp n → CallsOf g (denCfgOf env w) hp n → Executed s.mem n := by
  rcases call_deriv ok.toC hrun with ⟨y, m', ho, hd⟩ | ⟨e, s', ho, _⟩
  · cases ho
    exact (hd.exact ok (init_memSound g env w hc) trivial (init_memoDone g (denCfgOf env w) ok env w hc)).2
  · cases ho

/-- **Branches of Merge not selected by the id are not demanded.** -/
theorem merge_branches (c : Ctx) (t : List (Val × Nat)) (a : Nat) :
    (∀ q ∈ progDeps c ((EdgeK.switch t).hashProg a),
      q = .pv 0 ∨ ∃ key idx, c.pv 0 = .ok key ∧ tableLookup t key = some idx ∧ q = .ph (idx + 1)) ∧
    (∀ q ∈ progDeps c ((EdgeK.switch t).evalProg a),
      q = .cur ∨ ∃ (h : NHash) (idx : Int), c.cur = .ok (h, .int idx) ∧ q = .pv (idx.toNat + 1)) :=
  ⟨switch_hash_deps c t a, switch_eval_deps c t a⟩

/-- **Shared intermediates.**  A product (tuple of requested fields) denotes the tuple of its parents' values. -/
theorem shared_intermediate (g : Graph) (d : DenCfg) (ok : GraphOK g) (n : Nat) (he : (g.node n).edge = some .product)
    (vs : List Val) (h : interpReqs (ctxOf g d n) ((List.range (g.parents n).length).map .parentValue) = .ok (vs.map .val)) :
    (den g d n).v = .ok (.tup vs) := by
  rw [den_val d ok.toGraphBase he]
  simp only [EdgeK.evalProg, staticEval, interp, interpReq, h, Except.map]
  simp only [asVals_map_val, interp]
  rfl

/-- an impure function's value names the call and the node: two calls never share it -/
theorem impure_differs_between_calls (f : String) (n c c' : Nat) (pos : List Val) (kwn : List String) (kwv : List Val)
    (h : c ≠ c') : Val.imp f c n pos kwn kwv ≠ Val.imp f c' n pos kwn kwv := by
  intro he; injection he with _ h2; exact h h2

/-! non-vacuity: the demo graph of C01 uses node 1 (`g(x)`) three times; the theorem applies to it -/
example : ∃ N o steps, (∀ fuel, N ≤ fuel → C01.demo.call C01.demoEnv {} fuel = some (o, steps)) ∧ ∀ j, calls o.mem j ≤ 1 :=
  at_most_once C01.demo (okB_sound _ (by decide +kernel)) C01.demoEnv {} (callOKB_sound _ _ (by decide +kernel)) rfl

end CM.C03
