/-
  C10 (continued) — chains of ANY number of layers: the inverses run in reverse order.
-/
import CM.Props.C10
import CM.Proofs.ChainRev
import CM.Proofs.ChainInv
namespace CM.C10
open CM

/-- **Node level, any number of layers: `Context.reverse` of the whole chain in closed form.**  For layers `ls` (last layer first) none of
which merely hands a name on (`PlainChain`): reversing `ChainContext(...ChainContext(L1, L2)..., Ln)` on the nodes that came in returns the backward
outputs of the FIRST layer, creates no nodes, and its new edges are exactly: the stitches of the last layer to what came in, then of each
earlier layer to the backward outputs of the layer right after it (`chainStitches`) - for chains of every length. -/
theorem node_chain_reverse_closed (ls : List CtxLayer) (outs : List BNode) (next : Nat) (hp : PlainChain ls outs) :
    (chainCtx ls).reverse outs next = .ok (chainOuts ls outs, chainStitches ls outs, [], next) :=
  chain_reverse_closed ls outs next hp

/-- **Node level, any number of layers: every layer's inverse receives what the inverse of the layer right after it returned.**  The decorated
graph of `f` over a chain whose context is `ChainContext(chain of ls, f)`: wherever in the chain two adjacent layers `l` (earlier) and `later`
stand, the backward input `n` of `l` computes exactly what the backward output `o` of `later` that has its name computes - however many layers
come before and after them. -/
theorem node_chain_reverse_order (b fb r : Bag) (h : b.loopbackWith fb = .ok r) :
    ∃ state, connectBags b fb = .ok state ∧
      ∀ (pre : List CtxLayer) (later l : CtxLayer) (post : List CtxLayer) (inhf : NameSet) (n o : BNode),
        state.ctx = .chain (chainCtx (pre ++ later :: l :: post)) (.bag [] [] inhf) →
        (names state.outputs).Nodup →
        PlainChain (pre ++ later :: l :: post)
          (cloneEdges false (state.outputs.filter fun m => inhf.mem m.name && !(names []).contains m.name) state.next).1 →
        n ∈ l.bi → o ∈ later.bo → o.name = n.name → n ∉ r.inputs →
        ∀ t, BDen r n t ↔ BDen r o t := by
  obtain ⟨state, es, hst, hd⟩ := loopback_shape b fb r h
  exact ⟨state, hst, fun pre later l post inhf n o hctx _ _ => hd.adjacent hctx⟩

/-- three layers inverting `a`, the last layer first -/
def exLs : List CtxLayer :=
  [⟨[⟨11, "a"⟩], [⟨12, "a"⟩], .fin []⟩, ⟨[⟨7, "a"⟩], [⟨8, "a"⟩], .fin []⟩, ⟨[⟨3, "a"⟩], [⟨4, "a"⟩], .fin []⟩]

/-- non-vacuity (a test): the three layers reversed on node 20 - the closed form; below, the premises of the theorems hold -/
example : (chainCtx exLs).reverse [⟨20, "a"⟩] 30 =
    .ok ([⟨4, "a"⟩], [identityEdge ⟨20, "a"⟩ ⟨11, "a"⟩, identityEdge ⟨12, "a"⟩ ⟨7, "a"⟩, identityEdge ⟨8, "a"⟩ ⟨3, "a"⟩], [], 30) := by rfl

example : PlainChain exLs [⟨20, "a"⟩] := by
  simp only [exLs, PlainChain]; decide

example : Feeds (chainCtx exLs) [⟨20, "a"⟩] 30 ⟨3, "a"⟩ ⟨8, "a"⟩ :=
  feeds_adjacent [⟨[⟨11, "a"⟩], [⟨12, "a"⟩], .fin []⟩] (later := ⟨[⟨7, "a"⟩], [⟨8, "a"⟩], .fin []⟩) (l := ⟨[⟨3, "a"⟩], [⟨4, "a"⟩], .fin []⟩)
    (post := []) (res := _) rfl (.head _) (.head _) rfl

/-- **Node level, any number of layers: the decorated graph computes `inv_1(inv_2(... inv_n(t)))`.**  A chain of layers `L1 ... Ln` each with an
inverse field of the same name over its backward input and any number of the layer's own parameters (`InvLayer.params`, computing `pts` in the decorated
graph - by `node_loopback_forward_unchanged` what they computed in the forward pass; `inv_k(s)` then reads `g_k(s, pts_k...)`), decorated around `f`: if the LAST layer's backward input computes `t` (what `f` returned under that
name: `node_loopback_last_layer_input`), the backward output of the FIRST layer computes the inverses applied one after the other, the last layer's
first - as ONE term, for chains of every length. -/
theorem node_chain_inverse_term (b fb r : Bag) (h : b.loopbackWith fb = .ok r) :
    ∃ state, connectBags b fb = .ok state ∧
      ∀ (l0 : InvLayer) (ls : List InvLayer) (inhf : NameSet) (t : BTerm),
        state.ctx = .chain (chainCtx ((l0 :: ls).map InvLayer.ctx)) (.bag [] [] inhf) →
        (names state.outputs).Nodup →
        PlainChain ((l0 :: ls).map InvLayer.ctx)
          (cloneEdges false (state.outputs.filter fun m => inhf.mem m.name && !(names []).contains m.name) state.next).1 →
        Wired r (l0 :: ls) → (∀ l ∈ l0 :: ls, l.n ∉ r.inputs ∧ l.n.name = l0.n.name ∧ l.o.name = l0.n.name) →
        BDen r l0.n t → BDen r (lastOut l0 ls) (invTerm (l0 :: ls) t) := by
  obtain ⟨state, es, hst, hd⟩ := loopback_shape b fb r h
  exact ⟨state, hst, fun l0 ls inhf t hctx _ _ hw hnames => hd.inverse_term hctx hw hnames⟩

/-- a third layer of the same shape -/
def exLayerBag3 : Bag :=
  { inputs := [⟨0, "a"⟩], outputs := [⟨1, "a"⟩],
    edges := [{ edge := .function "N.a" [] [], ins := [⟨0, "a"⟩], out := ⟨1, "a"⟩ },
              { edge := .function "N.inv.a" [] [], ins := [⟨2, "a"⟩], out := ⟨3, "a"⟩ }],
    virt := .fin [], persistent := [], optional := [], ctx := .bag [⟨2, "a"⟩] [⟨3, "a"⟩] (.fin []), next := 4 }

/-- non-vacuity (a test): three layers `L`, `M`, `N` decorated around `f`: the context of the connected state is a `chainCtx` of three layers under the
function's context, and the decorated graph computes `L.inv.a(M.inv.a(N.inv.a(F(N.a(M.a(L.a(a)))))))` -/
example :
    (match connectBags exLayerBag exLayerBag2 with
     | .ok lm =>
       (match connectBags lm exLayerBag3, functionToBag "F" ["a"] ["a"] true with
        | .ok chain, .ok fb =>
          (match chain.ctx with
           | .chain (.chain (.bag _ _ _) (.bag _ _ _)) (.bag _ _ _) => true
           | _ => false) &&
          (match chain.loopbackWith fb with
           | .ok r =>
               (match r.outputs.map fun o => r.term 60 o with
                | [some (.node (.function "L.inv.a" [] []) [.node (.function "M.inv.a" [] []) [.node (.function "N.inv.a" [] []) [.node (.function "F" [] [])
                     [.node (.function "N.a" [] []) [.node (.function "M.a" [] []) [.node (.function "L.a" [] []) [.inp "a"]]]]]]])] => true
                | _ => false)
           | .error _ => false)
        | _, _ => false)
     | .error _ => false) = true := by
  decide +kernel

/-- the term of the theorem for these three layers (last layer first), the middle one with a private parameter computing `pt` -/
example (t pt : BTerm) (n o p : BNode) (i : NameSet) :
    invTerm [{ n := n, o := o, g := .function "N.inv.a" [] [], inh := i },
             { n := n, o := o, g := .function "M.inv.a" [] [], inh := i, params := [p], pts := [pt] },
             { n := n, o := o, g := .function "L.inv.a" [] [], inh := i }] t =
      .node (.function "L.inv.a" [] []) [.node (.function "M.inv.a" [] []) [.node (.function "N.inv.a" [] []) [t], pt]] := rfl

/-- a graph of two inverse edges joined by an identity edge, the second one also reading the node 0 as a private parameter -/
def exInvGraph : Bag :=
  { inputs := [⟨0, "a"⟩], outputs := [⟨4, "a"⟩],
    edges := [{ edge := .function "N.inv.a" [] [], ins := [⟨0, "a"⟩], out := ⟨1, "a"⟩ }, identityEdge ⟨1, "a"⟩ ⟨2, "a"⟩,
              { edge := .function "M.inv.a" [] [], ins := [⟨2, "a"⟩, ⟨0, "a"⟩], out := ⟨4, "a"⟩ }],
    virt := .fin [], persistent := [], optional := [], ctx := .no, next := 5 }

/-- the premise `Wired` is satisfiable (a test) -/
theorem exInvGraph_wired :
    Wired exInvGraph [{ n := ⟨0, "a"⟩, o := ⟨1, "a"⟩, g := .function "N.inv.a" [] [], inh := .fin [] },
                      { n := ⟨2, "a"⟩, o := ⟨4, "a"⟩, g := .function "M.inv.a" [] [], inh := .fin [], params := [⟨0, "a"⟩], pts := [.inp "a"] }] := by
  intro l hl
  rcases List.mem_cons.1 hl with rfl | hl
  · exact ⟨.head _, nofun, by decide, rfl, nofun⟩
  · cases List.mem_singleton.1 hl
    refine ⟨.tail _ (.tail _ (.head _)), nofun, by decide, rfl, fun q hq => ?_⟩
    cases List.mem_singleton.1 hq
    exact .input (b := exInvGraph) (.head _)

example :
    Wired exInvGraph [{ n := ⟨0, "a"⟩, o := ⟨1, "a"⟩, g := .function "N.inv.a" [] [], inh := .fin [] },
                      { n := ⟨2, "a"⟩, o := ⟨4, "a"⟩, g := .function "M.inv.a" [] [], inh := .fin [], params := [⟨0, "a"⟩], pts := [.inp "a"] }] :=
  exInvGraph_wired

/-- `inv_chain_den` applied (a test): with the link of the identity edge, the graph above computes `M.inv.a(N.inv.a(a), a)` at its output -/
example : BDen exInvGraph ⟨4, "a"⟩ (.node (.function "M.inv.a" [] []) [.node (.function "N.inv.a" [] []) [.inp "a"], .inp "a"]) :=
  inv_chain_den _ _ _ exInvGraph_wired
    ⟨fun _ hs => .ident (identityEdge ⟨1, "a"⟩ ⟨2, "a"⟩) (by decide) (.tail _ (.head _)) rfl rfl rfl hs, trivial⟩
    (.input (b := exInvGraph) (.head _))

/-- **Node level, any number of layers: the LAST layer's backward input computes what `f` returned under its name.**  `node_decorated_layer_input_fresh`
for a chain of any length under the function's context. -/
theorem node_chain_last_layer_input (b fb r : Bag) (h : b.loopbackWith fb = .ok r) :
    ∃ state es, connectBags b fb = .ok state ∧ r.edges = state.edges ++ es ∧ r.inputs = state.inputs ∧
      ∀ (l : CtxLayer) (rest : List CtxLayer) (inhf : NameSet) (n o : BNode),
        state.ctx = .chain (chainCtx (l :: rest)) (.bag [] [] inhf) → (names state.outputs).Nodup →
        n ∈ l.bi → o ∈ state.outputs → o.name = n.name → inhf.mem n.name = true →
        (∀ m ∈ state.inputs, m.id < state.next) → n ∉ r.inputs → ¬ Down r.edges (es.map (·.out)) o → ∀ t, BDen r n t ↔ BDen state o t := by
  obtain ⟨state, es, hst, hd⟩ := loopback_shape b fb r h
  exact ⟨state, es, hst, hd.edges, hd.inputs, fun l rest inhf n o hctx _ => hd.last_input_fresh hctx⟩

/-- **Node level, any number of layers, in closed form: forward, then `f`, then every inverse, the last layer's first.**  A chain `L1 ... Ln` of layers
with one-argument inverse fields of one name `x`, decorated around `f`: if `f`'s output `x` computes `t` in `pipeline >> f`, the backward output of the
FIRST layer computes `inv_1(inv_2(... inv_n(t)))` in the decorated graph - for chains of every length, every well-formed pipeline and every `f`. -/
theorem node_chain_decorated_term (b fb r : Bag) (h : b.loopbackWith fb = .ok r) :
    ∃ state es, connectBags b fb = .ok state ∧ r.edges = state.edges ++ es ∧
      ∀ (l0 : InvLayer) (ls : List InvLayer) (inhf : NameSet) (o : BNode) (t : BTerm),
        state.ctx = .chain (chainCtx ((l0 :: ls).map InvLayer.ctx)) (.bag [] [] inhf) →
        (names state.outputs).Nodup → (∀ m ∈ state.inputs, m.id < state.next) →
        PlainChain ((l0 :: ls).map InvLayer.ctx)
          (cloneEdges false (state.outputs.filter fun m => inhf.mem m.name && !(names []).contains m.name) state.next).1 →
        Wired r (l0 :: ls) → (∀ l ∈ l0 :: ls, l.n ∉ r.inputs ∧ l.n.name = l0.n.name ∧ l.o.name = l0.n.name) →
        o ∈ state.outputs → o.name = l0.n.name → inhf.mem l0.n.name = true → ¬ Down r.edges (es.map (·.out)) o →
        BDen state o t → BDen r (lastOut l0 ls) (invTerm (l0 :: ls) t) := by
  obtain ⟨state, es, hst, hd⟩ := loopback_shape b fb r h
  exact ⟨state, es, hst, hd.edges, fun l0 ls inhf o t hctx _ hlt _ hw hnames => hd.chain_term hctx hw hnames hlt⟩

/-- **... and that node is THE output of the decorated graph**: the decorated function returns exactly the one field `x`, computing
`inv_1(inv_2(... inv_n(t)))`. -/
theorem node_chain_decorated_field (b fb r : Bag) (h : b.loopbackWith fb = .ok r) :
    ∃ state es, connectBags b fb = .ok state ∧ r.edges = state.edges ++ es ∧
      ∀ (l0 : InvLayer) (ls : List InvLayer) (inhf : NameSet) (o : BNode) (t : BTerm),
        state.ctx = .chain (chainCtx ((l0 :: ls).map InvLayer.ctx)) (.bag [] [] inhf) →
        (names state.outputs).Nodup → (∀ m ∈ state.inputs, m.id < state.next) →
        PlainChain ((l0 :: ls).map InvLayer.ctx)
          (cloneEdges false (state.outputs.filter fun m => inhf.mem m.name && !(names []).contains m.name) state.next).1 →
        Wired r (l0 :: ls) → (∀ l ∈ l0 :: ls, l.n ∉ r.inputs ∧ l.n.name = l0.n.name ∧ l.o.name = l0.n.name) →
        o ∈ state.outputs → o.name = l0.n.name → inhf.mem l0.n.name = true → ¬ Down r.edges (es.map (·.out)) o →
        BDen state o t → r.outputs = [lastOut l0 ls] ∧ r.Field l0.n.name (invTerm (l0 :: ls) t) := by
  obtain ⟨state, es, hst, hd⟩ := loopback_shape b fb r h
  refine ⟨state, es, hst, hd.edges, fun l0 ls inhf o t hctx hnd hlt hp hw hnames ho hname hinh hdn hden => ?_⟩
  -- the outputs of the decorated graph are what the reversed context returns: the closed form of the chain
  obtain ⟨_, _, hrev⟩ := hctx ▸ hd.rev
  rw [chain_reverse_eq (fn_ctx_reverse inhf state.outputs state.next hnd) (chain_reverse_closed _ _ _ hp)] at hrev
  have houts : r.outputs = [lastOut l0 ls] := by
    rw [← (Prod.mk.inj (Except.ok.inj hrev)).1, chainOuts_inv]
  obtain ⟨l, hl, hlo⟩ := List.mem_map.1 (lastOut_mem ls l0)
  exact ⟨houts, _, houts ▸ List.mem_singleton.2 rfl, hlo ▸ (hnames l hl).2.2,
    hd.chain_term hctx hw hnames hlt ho hname hinh hdn hden⟩

end CM.C10
