/-
  C11 — Concurrent calls on one pipeline behave like sequential calls.
  The interleaving model: threads share the stores and take atomic actions; an interleaving of their actions is one
  list of (thread, action).  Proved for *every* such list (no bound on its length, no fairness assumption):
  * the lock protocol of `MemoryCache` (`with self._lock:` around every table access) gives mutual exclusion, and
    every table access is made by the holder;
  * whatever the interleaving, a table only answers with a value that some thread stored under an equal key
    (it never returns a value stored under another key), so the rely condition of `vm_correct` (every answer is a
    miss or sound) holds for every thread.
  CPython-level atomicity of single dict operations and the GIL are runtime facts outside the model (S-SCHED).
-/
import CM.Proofs.StoreLemmas
namespace CM.C11
open CM

inductive PC where | idle | waiting | holding
  deriving DecidableEq, Repr

structure LockState where
  pcs : Nat → PC
  holder : Option Nat

def LockState.init : LockState := { pcs := fun _ => .idle, holder := none }

/-- one atomic action of thread `t`: request the lock, acquire it if it is free, access the table and release -/
def lockStep (s : LockState) (t : Nat) : LockState :=
  match s.pcs t with
  | .idle => { s with pcs := fun u => if u = t then .waiting else s.pcs u }
  | .waiting =>
    match s.holder with
    | none => { pcs := fun u => if u = t then .holding else s.pcs u, holder := some t }
    | some _ => s                                          -- blocked
  | .holding => { pcs := fun u => if u = t then .idle else s.pcs u, holder := none }   -- table access + release

def LockInv (s : LockState) : Prop := ∀ t, s.pcs t = .holding ↔ s.holder = some t

theorem LockInv.update {s : LockState} (t : Nat) {pc : PC} {ho : Option Nat} (ht : pc = .holding ↔ ho = some t)
    (hu : ∀ u, u ≠ t → (s.pcs u = .holding ↔ ho = some u)) :
    LockInv { pcs := fun u => if u = t then pc else s.pcs u, holder := ho } := by
  intro u
  by_cases h : u = t
  · simpa [h] using ht
  · simpa [h] using hu u h

theorem lockStep_inv (s : LockState) (t : Nat) (h : LockInv s) : LockInv (lockStep s t) := by
  unfold lockStep
  cases hp : s.pcs t with
  | idle =>
    -- `t` does not hold the lock
    exact .update t (by simp [← h t, hp]) fun u _ => h u
  | waiting =>
    cases hh : s.holder with
    | some w => simpa [hh] using h
    | none =>
      -- nobody holds the lock
      exact .update t (by simp) fun u hu => by simp [h u, hh, Ne.symm hu]
  | holding =>
    -- `t` holds the lock, so nobody else does
    exact .update t (by simp) fun u hu => by simp [h u, (h t).1 hp, Ne.symm hu]

/-- **Mutual exclusion**, for every schedule: at most one thread is between acquire and release, and it is the one the
lock records as its holder, so every table access (made in state `holding`) is made by the holder. -/
theorem mutual_exclusion (schedule : List Nat) :
    let s := schedule.foldl lockStep LockState.init
    LockInv s ∧ ∀ t u, s.pcs t = .holding → s.pcs u = .holding → t = u := by
  have hinv : LockInv (schedule.foldl lockStep LockState.init) :=
    List.foldlRecOn schedule lockStep (motive := LockInv) (fun t => by simp [LockState.init])
      fun s h t _ => lockStep_inv s t h
  exact ⟨hinv, fun t u ht hu => Option.some.inj (((hinv t).mp ht).symm.trans ((hinv u).mp hu))⟩

/-- one access to the shared table; `Act` and `act` are `C08.Op` and `C08.apply` -/
inductive Act where
  | get (k : NHash)
  | set (k : NHash) (v : Val)
  | clear

def act (s : MemStore) : Act → MemStore
  | .get k => (s.get k).2
  | .set k v => s.set k v
  | .clear => s.clear

/-- the values written so far, by any thread -/
def written : List (Nat × Act) → List (NHash × Val)
  | [] => []
  | (_, .set k v) :: rest => (k, v) :: written rest
  | _ :: rest => written rest

/-- every entry of the table carries a value that some thread wrote, under a key its stored key equals -/
def Sound (w : List (NHash × Val)) (s : MemStore) : Prop :=
  ∀ p ∈ s.table, ∃ q ∈ w, q.2 = p.2 ∧ s.keyEq p.1 q.1 = true

/-- a step that keeps the kind of the store, and whose new entries carry a value of `new` under an equal key,
keeps the table sound -/
theorem Sound.step {w new : List (NHash × Val)} {s s' : MemStore} (hs : Sound w s) (hex : s'.exact = s.exact)
    (h : ∀ p ∈ s'.table, p ∈ s.table ∨ ∃ q ∈ new, q.2 = p.2 ∧ s.keyEq p.1 q.1 = true) : Sound (new ++ w) s' := by
  intro p hp
  simp only [s.keyEq_congr s' hex]
  rcases h p hp with hold | ⟨q, hq, h1, h2⟩
  · obtain ⟨q, hq, h1, h2⟩ := hs p hold
    exact ⟨q, List.mem_append_right _ hq, h1, h2⟩
  · exact ⟨q, List.mem_append_left _ hq, h1, h2⟩

theorem act_sound (w : List (NHash × Val)) (s : MemStore) (t : Nat) (a : Act) (hs : Sound w s) :
    Sound (written [(t, a)] ++ w) (act s a) := by
  cases a with
  | get k => exact hs.step (new := []) (s.get_exact k) fun p hp => .inl (s.get_sub k p hp)
  | set k v =>
    exact hs.step (new := [(k, v)]) (s.set_exact k v) fun p hp =>
      (s.set_sub k v p hp).imp id fun ⟨h1, h2⟩ => ⟨(k, v), List.mem_singleton.mpr rfl, h1.symm, h2⟩
  | clear => exact fun p hp => nomatch hp

theorem written_append (xs ys : List (Nat × Act)) : written (xs ++ ys) = written xs ++ written ys := by
  induction xs with
  | nil => rfl
  | cons x xs ih =>
    obtain ⟨t, a⟩ := x
    cases a <;> simp [written, ih]

/-- the general form: the run may start from any sound table -/
theorem interleaving_sound (ops : List (Nat × Act)) (s : MemStore) (w : List (NHash × Val)) (h : Sound w s) :
    Sound (written ops.reverse ++ w) (ops.foldl (fun s o => act s o.2) s) := by
  induction ops generalizing s w with
  | nil => exact h
  | cons o os ih =>
    have := ih (act s o.2) _ (act_sound w s o.1 o.2 h)
    rwa [List.reverse_cons, written_append, List.append_assoc]

/-- **Any interleaving.**  Whatever the threads do and however their actions are interleaved, the table only holds -
and therefore only ever answers with - values that some thread stored, under a key the stored key equals.  Every
answer a thread receives is thus a miss or sound: the hypothesis under which a VM run returns the sequential value. -/
theorem any_interleaving_sound (ops : List (Nat × Act)) (s0 : MemStore) (h0 : s0.table = []) :
    Sound (written ops.reverse) (ops.foldl (fun s o => act s o.2) s0) := by
  have := interleaving_sound ops s0 [] (fun p hp => by rw [h0] at hp; cases hp)
  rwa [List.append_nil] at this

/-- a hit, at any point of any interleaving, returns a value that was stored under a key equal to the stored key of the
entry found for the requested key -/
theorem hit_is_sound (ops : List (Nat × Act)) (s0 : MemStore) (h0 : s0.table = []) (k : NHash) (v : Val)
    (h : ((ops.foldl (fun s o => act s o.2) s0).get k).1 = some v) :
    ∃ q ∈ written ops.reverse, q.2 = v := by
  obtain ⟨p, hp, hv, _⟩ := MemStore.get_hit _ k v h
  obtain ⟨q, hq, h1, _⟩ := any_interleaving_sound ops s0 h0 p hp
  exact ⟨q, hq, by rw [h1, hv]⟩

end CM.C11
