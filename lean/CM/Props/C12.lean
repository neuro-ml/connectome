/-
  C12 — A crash during a disk-cache write never corrupts what later runs read.
  Theorems about CM.Model.Disk for *every* prefix of the mutation list of a write and *every* later loss of files;
  the protocol itself (tarn) is modelled, not verified, and is tied to the code by S-CRASH (exhaustive crash points).
-/
import CM.Model.Disk
namespace CM.C12
open CM

theorem read_put_same (fs : Fs) (p : Path) (c : Content) : (fs.put p c).read p = some c := by
  simp [Fs.read, Fs.put]

theorem read_erase_ne (fs : Fs) (p q : Path) (h : p ≠ q) : (fs.erase p).read q = fs.read q := by
  have : ∀ a : Path × Content, decide ((a.1 != p) = true ∧ (a.1 == q) = true) = (a.1 == q) := fun a => by
    by_cases ha : a.1 = q <;> simp [ha, Ne.symm h]
  simp only [Fs.read, Fs.erase, List.find?_filter, this]

theorem read_erase_same (fs : Fs) (p : Path) : (fs.erase p).read p = none := by
  simp only [Fs.read, Fs.erase, Option.map_eq_none_iff, List.find?_eq_none, List.mem_filter]
  rintro x ⟨_, hx⟩ hp
  simp only [bne_iff_ne, ne_eq] at hx
  exact hx (by simpa using hp)

theorem read_put_ne (fs : Fs) (p q : Path) (c : Content) (h : p ≠ q) : (fs.put p c).read q = fs.read q := by
  rw [← read_erase_ne fs p q h]
  simp [Fs.read, Fs.put, h]

theorem run_append (fs : Fs) (a b : List FsOp) : fs.run (a ++ b) = (fs.run a).run b := List.foldl_append

/-- the operations that name `q` as the target of a rename / create / write / remove; the others leave `q` alone -/
def touches (q : Path) : FsOp → Bool
  | .create p | .remove p | .write p _ => p == q
  | .rename s d => s == q || d == q
  | _ => false

theorem apply_untouched (fs : Fs) (op : FsOp) (q : Path) (h : touches q op = false) : (fs.apply op).read q = fs.read q := by
  cases op with
  | mkdir _ | chmod _ | chown _ => rfl
  | create p =>
    simp only [touches, beq_eq_false_iff_ne, ne_eq] at h
    exact read_put_ne fs p q [] h
  | write p ch =>
    simp only [touches, beq_eq_false_iff_ne, ne_eq] at h
    simp only [Fs.apply]
    cases fs.read p with
    | none => rfl
    | some c => exact read_put_ne fs p q _ h
  | rename s d =>
    simp only [touches, Bool.or_eq_false_iff, beq_eq_false_iff_ne, ne_eq] at h
    simp only [Fs.apply]
    cases fs.read s with
    | none => rfl
    | some c => rw [read_put_ne _ d q c h.2, read_erase_ne fs s q h.1]
  | remove p =>
    simp only [touches, beq_eq_false_iff_ne, ne_eq] at h
    exact read_erase_ne fs p q h

theorem run_untouched (ops : List FsOp) (q : Path) (h : ∀ op ∈ ops, touches q op = false) (fs : Fs) :
    (fs.run ops).read q = fs.read q :=
  List.foldlRecOn ops Fs.apply (motive := fun fs' => fs'.read q = fs.read q) rfl
    fun fs' h' op hop => (apply_untouched fs' op q (h op hop)).trans h'

theorem run_writes (tmp : Path) (c pre : Content) (fs : Fs) (h : fs.read tmp = some pre) :
    (fs.run (c.map (.write tmp))).read tmp = some (pre ++ c) := by
  induction c generalizing pre fs with
  | nil => simpa [Fs.run] using h
  | cons ch c ih =>
    have h1 : (fs.apply (.write tmp ch)).read tmp = some (pre ++ [ch]) := by
      simp only [Fs.apply, h]; exact read_put_same ..
    simpa [Fs.run, List.append_assoc] using ih (pre ++ [ch]) _ h1

/-- all of `storeFile` but the final rename: these operations change the temporary file only -/
def fillTmp (dir tmp : Path) (c : Content) : List FsOp :=
  [.mkdir dir, .chmod dir, .chown dir, .create tmp] ++ c.map (.write tmp) ++ [.chmod tmp, .chown tmp]

theorem storeFile_eq (dir tmp final : Path) (c : Content) :
    storeFile dir tmp final c = fillTmp dir tmp c ++ [.rename tmp final] := by
  simp [storeFile, fillTmp]

theorem fillTmp_untouched {dir tmp : Path} {c : Content} {q : Path} (h : tmp ≠ q) :
    ∀ op ∈ fillTmp dir tmp c, touches q op = false := by
  intro op hop
  simp only [fillTmp, List.mem_append, List.mem_cons, List.mem_map, List.not_mem_nil, or_false] at hop
  rcases hop with (((rfl | rfl | rfl | rfl) | ⟨ch, _, rfl⟩) | (rfl | rfl)) <;> simp [touches, h]

theorem storeFile_untouched {dir tmp final : Path} {c : Content} {q : Path} (h1 : tmp ≠ q) (h2 : final ≠ q) :
    ∀ op ∈ storeFile dir tmp final c, touches q op = false := by
  intro op hop
  rw [storeFile_eq, List.mem_append, List.mem_singleton] at hop
  rcases hop with hop | rfl
  · exact fillTmp_untouched h1 op hop
  · simp [touches, h1, h2]

theorem fillTmp_full (dir tmp : Path) (c : Content) (fs : Fs) : (fs.run (fillTmp dir tmp c)).read tmp = some c := by
  rw [fillTmp, run_append, run_append, run_untouched _ tmp (by simp [touches])]
  exact run_writes tmp c [] _ (by simp [Fs.run, Fs.apply, read_put_same])

theorem run_rename (fs : Fs) (tmp final : Path) (c : Content) (h : fs.read tmp = some c) :
    (fs.run [.rename tmp final]).read final = some c := by
  simp only [Fs.run, List.foldl_cons, List.foldl_nil, Fs.apply, h]
  exact read_put_same ..

theorem store_full (dir tmp final : Path) (c : Content) (fs : Fs) :
    (fs.run (storeFile dir tmp final c)).read final = some c := by
  rw [storeFile_eq, run_append]
  exact run_rename _ tmp final c (fillTmp_full dir tmp c fs)

/-- **Never partial.**  After any prefix of the mutations that store one file, its final path holds what it held before
or the complete content - nothing in between: final paths appear only by renaming a completely written temp file. -/
theorem store_prefix (dir tmp final : Path) (c : Content) (hne : tmp ≠ final) (fs : Fs) (k : Nat) :
    (fs.run ((storeFile dir tmp final c).take k)).read final = fs.read final ∨
    (fs.run ((storeFile dir tmp final c).take k)).read final = some c := by
  rw [storeFile_eq]
  by_cases hk : k ≤ (fillTmp dir tmp c).length
  · -- the prefix stops before the rename: nothing has touched the final path
    rw [List.take_append_of_le_length hk]
    exact .inl (run_untouched _ final (fun op hop => fillTmp_untouched hne op (List.mem_of_mem_take hop)) fs)
  · rw [List.take_of_length_le (by rw [List.length_append, List.length_singleton]; omega), ← storeFile_eq]
    exact .inr (store_full ..)

/-- the blob path holds the complete blob or nothing -/
def Good (e : DiskEntry) (fs : Fs) : Prop := ∀ c, fs.read e.blobPath = some c → c = e.blob

/-- what can be lost later: any file may disappear, index and temporary files may be truncated or garbled;
a blob that is still there is still complete -/
def Loss (e : DiskEntry) (fs fs' : Fs) : Prop := ∀ c, fs'.read e.blobPath = some c → fs.read e.blobPath = some c

/-- the temporary names are fresh and differ from the final paths (tarn draws 8 random letters) -/
structure Fresh (e : DiskEntry) : Prop where
  b1 : e.blobTmp ≠ e.blobPath
  b2 : e.idxTmp ≠ e.blobPath
  b3 : e.idxPath ≠ e.blobPath
  i1 : e.idxTmp ≠ e.idxPath

theorem idx_keeps_blob (e : DiskEntry) (hf : Fresh e) (j : Nat) (fs : Fs) :
    (fs.run ((storeFile e.idxDir e.idxTmp e.idxPath e.idx).take j)).read e.blobPath = fs.read e.blobPath :=
  run_untouched _ _ (fun op hop => storeFile_untouched hf.b2 hf.b3 op (List.mem_of_mem_take hop)) fs

/-- **Crash-prefix safety.**  Start from a storage whose blob path holds the complete blob or nothing (e.g. an earlier,
interrupted or complete, write of the same entry); stop the write after *any* number `k` of its file-system mutations;
then lose *any* files and truncate any index / temporary files (`Loss`).  A later reader gets a miss or exactly the
complete value: never a partial one. -/
theorem crash_prefix_safe (e : DiskEntry) (hf : Fresh e) (fs0 : Fs) (h0 : Good e fs0) (k : Nat) (fs' : Fs)
    (hl : Loss e (fs0.run ((writeEntry e).take k)) fs') :
    readEntry fs' e = none ∨ readEntry fs' e = some e.blob := by
  -- the blob path is good after every prefix: the index's part of the write, however much of it, leaves the blob alone
  have hgood : Good e (fs0.run ((writeEntry e).take k)) := by
    intro c hc
    rw [writeEntry, List.take_append, run_append, idx_keeps_blob e hf] at hc
    rcases store_prefix e.blobDir e.blobTmp e.blobPath e.blob hf.b1 fs0 k with h1 | h1
    · exact h0 c (h1 ▸ hc)
    · rw [h1] at hc; cases hc; rfl
  -- whatever is lost afterwards, a blob that is still there is complete
  unfold readEntry
  split
  · exact .inl rfl
  · split
    · cases hb : fs'.read e.blobPath with
      | none => exact .inl rfl
      | some b => exact .inr (by rw [hgood b (hl b hb)])
    · exact .inl rfl

/-- **Recovery.**  From any such storage, computing the value again and writing it (with fresh temporary names) makes
the entry completely visible: the storage never becomes permanently unusable for the key. -/
theorem recovery (e : DiskEntry) (hf : Fresh e) (fs : Fs) : readEntry (fs.run (writeEntry e)) e = some e.blob := by
  have hblob := idx_keeps_blob e hf (storeFile e.idxDir e.idxTmp e.idxPath e.idx).length
    (fs.run (storeFile e.blobDir e.blobTmp e.blobPath e.blob))
  rw [List.take_length, store_full] at hblob
  simp [readEntry, writeEntry, run_append, store_full, hblob]

/-- non-vacuity: crash after the blob was renamed but before the index entry was: a miss; after everything: a hit -/
example :
    let e : DiskEntry := { blobDir := "s/ff", blobTmp := "s/.tmp/x1", blobPath := "s/ff/b", blob := [1, 2, 3],
                           idxDir := "i/01", idxTmp := "i/.tmp/x2", idxPath := "i/01/k", idx := [9] }
    readEntry (({} : Fs).run ((writeEntry e).take 12)) e = none ∧ readEntry (({} : Fs).run (writeEntry e)) e = some [1, 2, 3] := by
  decide +kernel

end CM.C12
