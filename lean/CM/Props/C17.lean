/-
  C17 — GroupBy re-keys a dataset as an exact partition.
  Property theorems about CM.Model.Rel (tied to /repo by the S-REL correspondence).  Of Split, the mapping is treated
  here (`split_expansion`); the dataset `splitDS` built on it is covered by the correspondence only.
-/
import CM.Proofs.Basics
import CM.Proofs.RelLemmas
namespace CM.C17
open CM

/-- one step of `GroupMapping`: `i` joins the group of its key `k`, which is created if there is none -/
def addToGroup (m : List (String × List String)) (k i : String) : List (String × List String) :=
  if m.any (·.1 == k) then m.map fun (k', g) => if k' == k then (k', insertSorted i g) else (k', g) else m ++ [(k, [i])]

theorem groupMapping_cons (keyOf : String → Except Err String) (i : String) (rest : List String) :
    groupMapping keyOf (i :: rest) =
      (do let m ← groupMapping keyOf rest; let k ← keyOf i; pure (addToGroup m k i)) := rfl

/-- where an entry of the new table comes from, a missing group being read as the empty one -/
theorem of_mem_addToGroup {m : List (String × List String)} {k i k' : String} {g' : List String}
    (h : (k', g') ∈ addToGroup m k i) :
    (k' ≠ k ∧ (k', g') ∈ m) ∨
    (k' = k ∧ ∃ g, g' = insertSorted i g ∧ ((k, g) ∈ m ∨ (g = [] ∧ k ∉ m.map (·.1)))) := by
  unfold addToGroup at h
  split at h
  · obtain ⟨⟨k0, g0⟩, hm, heq⟩ := List.mem_map.mp h
    by_cases hk : k0 = k
    · simp only [hk, beq_self_eq_true, if_true, Prod.mk.injEq] at heq
      obtain ⟨rfl, rfl⟩ := heq
      exact .inr ⟨rfl, g0, rfl, .inl (hk ▸ hm)⟩
    · simp only [beq_iff_eq, hk, if_false, Prod.mk.injEq] at heq
      obtain ⟨rfl, rfl⟩ := heq
      exact .inl ⟨hk, hm⟩
  · next hany =>
    have hn := mt any_fst_beq.mpr hany
    rcases List.mem_append.mp h with hm | hm
    · exact .inl ⟨fun hk => hn (hk ▸ List.mem_map_of_mem (f := (·.1)) hm), hm⟩
    · cases List.mem_singleton.mp hm
      exact .inr ⟨rfl, [], rfl, .inr ⟨rfl, hn⟩⟩

theorem keys_addToGroup (m : List (String × List String)) (k i : String) :
    (addToGroup m k i).map (·.1) = if m.any (·.1 == k) then m.map (·.1) else m.map (·.1) ++ [k] := by
  unfold addToGroup
  split
  · rw [List.map_map]
    exact List.map_congr_left fun p _ => by simp only [Function.comp]; split <;> rfl
  · simp

theorem mem_keys_addToGroup (m : List (String × List String)) (k i k0 : String) :
    k0 ∈ (addToGroup m k i).map (·.1) ↔ k0 = k ∨ k0 ∈ m.map (·.1) := by
  rw [keys_addToGroup]
  split
  · next hany => exact ⟨.inr, fun h => h.elim (fun h => h ▸ any_fst_beq.mp hany) id⟩
  · rw [List.mem_append, List.mem_singleton, or_comm]

/-- **Exact partition.**  When the mapping of GroupBy is built without error, every group `(k, g)` holds exactly
the old ids whose key is `k`; group keys are pairwise different; no group is empty. -/
theorem group_partition (keyOf : String → Except Err String) :
    ∀ (ids : List String) (m : List (String × List String)), groupMapping keyOf ids = .ok m →
      (∀ k g, (k, g) ∈ m → ∀ i, i ∈ g ↔ (i ∈ ids ∧ keyOf i = .ok k)) ∧
      (m.map (·.1)).Nodup ∧
      (∀ k g, (k, g) ∈ m → g ≠ []) ∧
      (∀ i ∈ ids, ∃ k g, keyOf i = .ok k ∧ (k, g) ∈ m) := by
  intro ids
  induction ids with
  | nil => intro m h; cases h; simp
  | cons i rest ih =>
    intro m h
    simp only [groupMapping_cons, bind_eq_ok] at h
    obtain ⟨m', hr, k, hk, h⟩ := h
    cases h
    obtain ⟨ih1, ih2, ih3, ih4⟩ := ih m' hr
    -- the old group of `k`, empty if there is none, holds the ids of `rest` with key `k`
    have hold : ∀ g, ((k, g) ∈ m' ∨ (g = [] ∧ k ∉ m'.map (·.1))) → ∀ j, j ∈ g ↔ j ∈ rest ∧ keyOf j = .ok k := by
      rintro g (hm | ⟨rfl, hn⟩) j
      · exact ih1 k g hm j
      · refine ⟨nofun, fun ⟨hj, hkj⟩ => ?_⟩
        obtain ⟨k0, g0, hk0, hm0⟩ := ih4 j hj
        rw [hkj] at hk0; cases hk0
        exact absurd (List.mem_map_of_mem (f := (·.1)) hm0) hn
    refine ⟨?_, ?_, ?_, ?_⟩
    · intro k' g' hm j
      rw [List.mem_cons]
      rcases of_mem_addToGroup hm with ⟨hne, hm⟩ | ⟨rfl, g, rfl, hg⟩
      · -- `i` has the key `k`, not `k'`
        rw [ih1 k' g' hm j, or_and_right, or_iff_right]
        rintro ⟨rfl, h2⟩
        exact hne (Except.ok.inj (h2.symm.trans hk))
      · rw [mem_insertSorted, hold g hg j, or_and_right, and_iff_left_of_imp fun h : j = i => h ▸ hk]
    · rw [keys_addToGroup]
      split
      · exact ih2
      · next hany => exact nodup_snoc ih2 (mt any_fst_beq.mpr hany)
    · intro k' g' hm hnil
      rcases of_mem_addToGroup hm with ⟨-, hm⟩ | ⟨-, g, rfl, -⟩
      · exact ih3 k' g' hm hnil
      · have := (mem_insertSorted i i g).mpr (.inl rfl)
        rw [hnil] at this; cases this
    · -- every old key stays a key, and `k` is one
      have key : ∀ k0, (k0 = k ∨ k0 ∈ m'.map (·.1)) → ∃ g, (k0, g) ∈ addToGroup m' k i := fun k0 h0 => by
        obtain ⟨⟨_, g⟩, hg, rfl⟩ := List.mem_map.mp ((mem_keys_addToGroup ..).mpr h0)
        exact ⟨g, hg⟩
      intro j hj
      cases hj with
      | head => exact (key k (.inl rfl)).elim fun g hg => ⟨k, g, hk, hg⟩
      | tail _ hj =>
        obtain ⟨k0, g0, hk0, hm0⟩ := ih4 j hj
        exact (key k0 (.inr (List.mem_map_of_mem (f := (·.1)) hm0))).elim fun g hg => ⟨k0, g, hk0, hg⟩

/-- the new ids are the sorted group keys; a key that is not a group is rejected by every data field -/
theorem group_unknown_rejected (keyOf : String → Except Err String) (d : DS) (g : DS) (h : groupByDS keyOf d = .ok g)
    (ids : List String) (hids : d.ids = .ok ids) (m : List (String × List String))
    (hm : groupMapping keyOf ids = .ok m) (new f : String) (hf : (f == "id") = false)
    (hnew : ∀ grp, (new, grp) ∉ m) : g.value f new = .error .keyError := by
  obtain ⟨-, ⟨⟩⟩ := of_guard_ok h
  have : m.find? (fun p => p.1 == new) = none :=
    List.find?_eq_none.mpr fun p hp hk => hnew p.2 (by rwa [← beq_iff_eq.mp hk])
  simp only [hf, hids, Except.bind, hm, this]
  rfl

theorem addPairs_spec (old : String) : ∀ (ps : List (String × Val)) (m m' : List (String × String × Val)),
    addPairs old ps m = .ok m' → (m.map (·.1)).Nodup →
      m' = m ++ ps.map (fun p => (p.1, old, p.2)) ∧ (m'.map (·.1)).Nodup := by
  intro ps
  induction ps with
  | nil => intro m m' h hn; cases h; simp [hn]
  | cons p rest ih =>
    intro m m' h hn
    obtain ⟨hany, h⟩ := of_guard_ok h
    have hn' : ((m ++ [(p.1, old, p.2)]).map (·.1)).Nodup := by
      simpa using nodup_snoc hn (mt any_fst_beq.mpr hany)
    obtain ⟨h1, h2⟩ := ih _ m' h hn'
    exact ⟨by simp [h1, List.append_assoc], h2⟩

/-- **Exact expansion.**  When Split's mapping is built without error: new ids are pairwise different; every entry
`new ↦ (old, part)` was produced by `__split__` on the old entry `old`; and every `(new, part)` that `__split__` produces
for an old id is in the mapping - each exactly once. -/
theorem split_expansion (splitOf : String → Except Err (List (String × Val))) :
    ∀ (ids : List String) (m0 m : List (String × String × Val)), splitMapping splitOf ids m0 = .ok m → (m0.map (·.1)).Nodup →
      (m.map (·.1)).Nodup ∧
      (∀ e ∈ m, e ∈ m0 ∨ (e.2.1 ∈ ids ∧ ∃ ps, splitOf e.2.1 = .ok ps ∧ (e.1, e.2.2) ∈ ps)) ∧
      (∀ e ∈ m0, e ∈ m) ∧
      (∀ old ∈ ids, ∀ ps, splitOf old = .ok ps → ∀ p ∈ ps, (p.1, old, p.2) ∈ m) := by
  intro ids
  induction ids with
  | nil =>
    intro m0 m h hn
    cases h
    exact ⟨hn, fun e he => .inl he, fun e he => he, fun old ho => nomatch ho⟩
  | cons old rest ih =>
    intro m0 m h hn
    simp only [splitMapping, bind_eq_ok] at h
    obtain ⟨pairs, hs, m1, ha, h⟩ := h
    obtain ⟨rfl, hn1⟩ := addPairs_spec old pairs m0 m1 ha hn
    obtain ⟨i1, i2, i3, i4⟩ := ih _ m h hn1
    refine ⟨i1, ?_, fun e he => i3 e (List.mem_append_left _ he), ?_⟩
    · intro e he
      rcases i2 e he with h1 | ⟨h1, h2⟩
      · rcases List.mem_append.mp h1 with h1 | h1
        · exact .inl h1
        · obtain ⟨p, hp, rfl⟩ := List.mem_map.mp h1
          exact .inr ⟨List.mem_cons_self .., pairs, hs, hp⟩
      · exact .inr ⟨List.mem_cons_of_mem _ h1, h2⟩
    · intro o ho ps hps p hp
      cases ho with
      | head =>
        rw [hs] at hps; cases hps
        exact i3 _ (List.mem_append_right _ (List.mem_map.mpr ⟨p, hp, rfl⟩))
      | tail _ ho => exact i4 o ho ps hps p hp

/-- colliding new ids (between entries or within one entry) are an error -/
theorem split_collision_rejected (old new : String) (part : Val) (rest : List (String × Val)) (m : List (String × String × Val))
    (h : m.any (·.1 == new) = true) : addPairs old ((new, part) :: rest) m = .error .assertionError := by
  simp [addPairs, h]

/-- single-string keys are themselves; a non-string key is a `TypeError` -/
theorem to_key_spec (s : String) (i : Int) :
    toKey [.str s] = .ok s ∧ toKey [.int i] = .error .typeError ∧ toKey [.app "f" [] [] []] = .error .typeError := by
  simp [toKey]

/-- non-vacuity: four ids, two groups -/
example :
    (match groupMapping (fun i => .ok (if i == "a" || i == "c" then "u" else "v")) ["a", "b", "c", "d"] with
      | .ok m => m.length == 2 && (m.find? (·.1 == "u")).map (·.2) == some ["a", "c"]
      | .error _ => false) = true := by decide +kernel

end CM.C17
