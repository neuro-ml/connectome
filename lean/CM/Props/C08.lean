/-
  C08 — Caches actually memoise: hits run nothing upstream, LRU stays bounded, shards partition the sorted ids.
  Property theorems about `MemStore` (CM.Model.VM: the model of `MemoryCache`) and `getShard` (CM.Model.Shard).
-/
import CM.Proofs.StoreLemmas
import CM.Model.Shard
namespace CM.C08
open CM

inductive Op where
  | get (k : NHash)
  | set (k : NHash) (v : Val)
  | clear

def apply (s : MemStore) : Op → MemStore
  | .get k => (s.get k).2
  | .set k v => s.set k v
  | .clear => s.clear

theorem remove_lt (s : MemStore) (key : NHash) (p : NHash × Val) (h : s.find? key = some p) :
    (s.remove key).length < s.table.length :=
  have ⟨hm, hk⟩ := MemStore.keyEq_of_find h
  List.length_filter_lt_length_iff_exists.mpr ⟨p, hm, by simp [hk]⟩

theorem lru_step_bounded (s : MemStore) (n : Nat) (h : s.table.length ≤ n ∧ s.size = some n) (op : Op) :
    (apply s op).table.length ≤ n ∧ (apply s op).size = some n := by
  obtain ⟨hb, hs⟩ := h
  -- an entry that is found moves to the front of the table it is removed from; a new one truncates the table
  have hfront : ∀ key e q, s.find? key = some q → (e :: s.remove key).length ≤ n := fun key e q hf =>
    Nat.le_trans (remove_lt s key q hf) hb
  cases op with
  | get k =>
    simp only [apply, MemStore.get]
    cases hf : s.find? k with
    | none => exact ⟨hb, hs⟩
    | some p => rw [hs]; exact ⟨hfront k _ p hf, rfl⟩
  | set k v =>
    simp only [apply, MemStore.set, hs]
    cases hf : s.find? k with
    | none => exact ⟨by simp only [List.length_take]; omega, rfl⟩
    | some p => exact ⟨hfront k _ p hf, rfl⟩
  | clear => exact ⟨Nat.zero_le n, hs⟩

/-- **Bounded.**  A size-bounded RAM cache never holds more than `size` entries, whatever the history of
`get` / `set` / `clear` (the `clear` modelled is the one repaired after finding F2: it keeps the bound). -/
theorem lru_bounded (s : MemStore) (n : Nat) (hs : s.size = some n) (hb : s.table.length ≤ n) (ops : List Op) :
    (ops.foldl apply s).table.length ≤ n ∧ (ops.foldl apply s).size = some n :=
  List.foldlRecOn ops apply (motive := fun s => s.table.length ≤ n ∧ s.size = some n) ⟨hb, hs⟩
    fun s h op _ => lru_step_bounded s n h op

theorem shardAt_succ (ks : List String) (sz i : Nat) : shardAt ks sz (i + 1) = shardAt (ks.drop sz) sz i := by
  rw [shardAt, shardAt, List.drop_drop, Nat.add_mul, Nat.one_mul, Nat.add_comm]

/-- the first shard, then the shards of the rest -/
theorem flatMap_shards {sz n : Nat} {ks : List String} (h : ks.length ≤ n * sz) :
    (List.range n).flatMap (fun i => shardAt ks sz i) = ks := by
  induction n generalizing ks with
  | zero => simp [List.eq_nil_of_length_eq_zero (Nat.le_zero.mp (Nat.zero_mul sz ▸ h))]
  | succ n ih =>
    have hrest : (ks.drop sz).length ≤ n * sz := by rw [List.length_drop]; rw [Nat.add_mul] at h; omega
    rw [List.range_succ_eq_map, List.flatMap_cons, List.flatMap_map]
    simp only [shardAt_succ, ih hrest]
    simp [shardAt]

/-- `⌈len / sz⌉` chunks of size `sz` cover `len` positions -/
theorem le_shards_mul {len sz : Nat} (hsz : 0 < sz) : len ≤ (len + sz - 1) / sz * sz := by
  have := Nat.lt_div_mul_add (a := len + sz - 1) hsz
  omega

/-- **The shards partition the sorted keys**: concatenating the `⌈n / size⌉` shards gives the sorted keys back
(every key in exactly one position of exactly one shard). -/
theorem shards_partition (keys : List String) (sz : Nat) (hsz : 0 < sz) :
    (List.range (((sortKeep keys).length + sz - 1) / sz)).flatMap (fun i => shardAt (sortKeep keys) sz i) = sortKeep keys :=
  flatMap_shards (le_shards_mul hsz)

theorem getElem_mem_shardAt (ks : List String) (sz p : Nat) (hsz : 0 < sz) (hp : p < ks.length) :
    ks[p] ∈ shardAt ks sz (p / sz) := by
  have hdiv : p / sz * sz + p % sz = p := Nat.div_add_mod' p sz
  have hmod := Nat.mod_lt p hsz
  rw [shardAt, List.mem_take_iff_getElem]
  refine ⟨p % sz, ?_, ?_⟩
  · simp only [List.length_drop]
    generalize p / sz * sz = t at hdiv
    omega
  · simp only [List.getElem_drop, hdiv]

/-- `_get_shard` on a cached key: the chunk of the key's position among the sorted keys -/
theorem getShard_some (keys : List String) (sz : Nat) (hsz : 0 < sz) (key : String) (h : key ∈ sortKeep keys) :
    getShard keys (some sz) key = .ok (shardAt (sortKeep keys) sz ((sortKeep keys).idxOf key / sz),
      ((sortKeep keys).length + sz - 1) / sz, (sortKeep keys).idxOf key / sz) := by
  cases sz with
  | zero => omega
  | succ m => simp [getShard, h]

/-- the shard `_get_shard` returns contains the requested key -/
theorem shard_contains_key (keys : List String) (sz : Nat) (hsz : 0 < sz) (key : String)
    (shard : List String) (count idx : Nat) (h : getShard keys (some sz) key = .ok (shard, count, idx)) :
    key ∈ shard ∧ shard = shardAt (sortKeep keys) sz idx ∧ idx < count := by
  have hmem : key ∈ sortKeep keys := by
    apply Decidable.byContradiction
    intro hn
    simp [getShard, hn] at h
  have hp := List.idxOf_lt_length_of_mem hmem
  rw [getShard_some keys sz hsz key hmem] at h
  cases h
  refine ⟨?_, rfl, (Nat.div_lt_iff_lt_mul hsz).mpr (Nat.lt_of_lt_of_le hp (le_shards_mul hsz))⟩
  have := getElem_mem_shardAt (sortKeep keys) sz _ hsz hp
  rwa [List.getElem_idxOf hp] at this

/-- a key that is not cached is rejected; without a shard size there is one shard with everything -/
theorem shard_edge_cases (keys : List String) (key : String) :
    ((sortKeep keys).contains key = false → ∀ size, getShard keys size key = .error .valueError) ∧
    ((sortKeep keys).contains key = true → getShard keys none key = .ok (sortKeep keys, 1, 0)) := by
  constructor
  · intro h size; simp only [getShard, h, Bool.not_false, if_true]
  · intro h; simp only [getShard, h, Bool.not_true, Bool.false_eq_true, if_false]

/-- non-vacuity: 5 keys in shards of 2 -->  [a b] [c d] [e] -/
example : (match getShard ["d", "a", "e", "c", "b"] (some 2) "c" with
    | .ok (shard, count, idx) => shard == ["c", "d"] && count == 3 && idx == 1
    | .error _ => false) = true := by decide +kernel

/-- non-vacuity of `lru_bounded`: a table of size 1 holds one entry after two `set`s -/
example : ((C08.apply (C08.apply { size := some 1, table := [] } (.set (.leaf (.int 1)) .none)) (.set (.leaf (.int 2)) .none)).table.length) = 1 := by
  decide +kernel

end CM.C08
