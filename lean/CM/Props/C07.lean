/-
  C07 — Hashes depend only on pipeline structure and input (no spurious invalidation).
  Model-level theorems: Silent arguments do not reach the hash; hash-transparent edges report a parent's hash;
  hash-transparent layers (cache layers, pure inheritance) leave every field's term — hence its hash — unchanged;
  re-bracketing does not change the stack (C09).  Process restarts, PYTHONHASHSEED and pickling are runtime facts
  decided by the S-SEED correspondence.
-/
import CM.Proofs.StackLemmas
import CM.Props.C09
import CM.Proofs.EdgeSem
import CM.Proofs.TermDen
import CM.Proofs.BagConnect
import CM.Proofs.BagGlue
import CM.Proofs.BagField
import CM.Proofs.BagMain
import CM.Proofs.MkBag
import CM.Proofs.Factory
import CM.Proofs.CacheBag
namespace CM.C07
open CM

theorem getElem?_silence (silent : List Nat) (hs : List NHash) (i : Nat) :
    (silence silent hs)[i]? = hs[i]?.map fun h => if silent.contains i then .leaf .none else h := by
  simp [silence, List.getElem?_zipIdx, Function.comp_def]

/-- **Silent.**  The hash of a function edge does not depend on the hashes of its Silent arguments. -/
theorem silent_invariant (silent : List Nat) : ∀ (hs hs' : List NHash), hs.length = hs'.length →
    (∀ i, silent.contains i = false → hs[i]? = hs'[i]?) → silence silent hs = silence silent hs' := by
  intro hs hs' hlen hagree
  refine List.ext_getElem? fun i => ?_
  rw [getElem?_silence, getElem?_silence]
  cases hc : silent.contains i
  · rw [hagree i hc]
  · -- a silent position holds `LeafHash(None)` in both, if it is there at all
    by_cases hi : i < hs.length
    · simp [hi, hlen ▸ hi]
    · simp [List.getElem?_eq_none (Nat.le_of_not_lt hi), List.getElem?_eq_none (hlen ▸ Nat.le_of_not_lt hi)]

theorem function_hash_silent (f : String) (kw : List String) (silent : List Nat) (hs hs' : List NHash)
    (hlen : hs.length = hs'.length) (h : ∀ i, silent.contains i = false → hs[i]? = hs'[i]?) :
    (EdgeK.function f kw silent).hashGraph hs = (EdgeK.function f kw silent).hashGraph hs' := by
  simp only [EdgeK.hashGraph, silent_invariant silent hs hs' hlen h]

/-- **Hash-transparent edges**: a cache edge, an identity, a hash barrier (statically) and CheckIds report the hash
of their (first) parent. -/
theorem transparent_edges (hs : List NHash) :
    (EdgeK.cache 0).hashGraph hs = .ok (hs.getD 0 default) ∧ EdgeK.identity.hashGraph hs = .ok (hs.getD 0 default) ∧
    EdgeK.barrier.hashGraph hs = .ok (hs.getD 0 default) ∧ EdgeK.checkIds.hashGraph hs = .ok (hs.getD 0 default) := by
  simp [EdgeK.hashGraph]

theorem cache_hashProg (c : Ctx) (s : Nat) :
    interp c ((EdgeK.cache s).hashProg 1) = (c.ph 0).map fun h => .hout h .none := hashProg_passThrough c rfl

/-- at run time as well: the hash a cache edge computes is its parent's hash, whatever store it uses -/
theorem cache_edge_dynamic_hash (c : Ctx) (s : Nat) (h : NHash) (hp : c.ph 0 = .ok h) :
    interp c ((EdgeK.cache s).hashProg 1) = .ok (.hout h .none) := by
  rw [cache_hashProg, hp]; rfl

/-- **Cache layers are transparent**: every field computes the same term after a cache layer -/
theorem cache_layer_transparent (s s' : Sig) (l : Layer) (hk : l.kind = .cache) (h : s.step l = .ok s') (n : String) :
    s'.field n = s.field n :=
  cache_step_field hk h n

/-- **Re-bracketing / nesting chains** leaves the stack, hence every term and hash, unchanged -/
theorem bracketing_same (p q : Pipe) (h : p.flatten = q.flatten) : p.sig = q.sig := C09.assoc p q h

/-- non-vacuity of `silent_invariant`: position 1 is Silent -/
example : silence [1] [.leaf (.int 1), .leaf (.int 2)] = silence [1] [.leaf (.int 1), .leaf (.int 99)] := by
  apply silent_invariant [1] _ _ rfl
  intro i hi
  match i with
  | 0 | n + 2 => rfl
  | 1 => simp at hi

/-! ## Node level: a cache layer connected to a bag (`connect_bags`, gluing theorem) -/


/-- **A cache edge is transparent for the denotation**: the node hash is the parent's hash, and (every lookup being a miss
in the specification) the value is the parent's value whenever the parent has a hash. -/
theorem cache_node_den (d : DenCfg) (s : Nat) (t : BTerm) :
    ((BTerm.node (.cache s) [t]).den d).h.map (·.1) = (t.den d).h.map (·.1) ∧
    (∀ hh, (t.den d).h = .ok hh → ((BTerm.node (.cache s) [t]).den d).v = (t.den d).v) := by
  rw [BTerm.den_node, BTerm.denList, BTerm.denList]
  simp only [EdgeK.den, List.length_singleton, cache_hashProg, argCtx, List.getElem?_cons_zero]
  constructor
  · cases (t.den d).h <;> rfl
  · intro hh hok
    rw [sem_cache s (x := (hh.1, .none)) (by rw [hok]; rfl)]
    show ((t.den d).v.map Item.val).bind Item.asVal = _
    cases (t.den d).v <;> rfl

/-- **Node level: a cache layer is hash-transparent.**  Connect a well-formed bag `l` with a bag `r` in which the field `x` is
a cache edge over the input of the same name (what `CacheToStorage._prepare_container` builds for every cached name).  If `l`
has the field `x` computing `tl`, the connected bag computes `cache(tl)` under `x`, whose node hash is the node hash of `tl`
and whose cache-free value is the value of `tl`: inserting the layer changes no key. -/
theorem node_cache_layer_transparent {l r : Bag} (h : Sep l r) (hs : SingleIncoming (connected l r).edges)
    (x : String) (s : Nat) (hr : ∀ t0, r.Field x t0 → t0 = .node (.cache s) [.inp x]) (hrx : x ∈ names r.outputs)
    (tl : BTerm) (hl : l.Field x tl) (t : BTerm) (hf : (connected l r).Field x t) (d : DenCfg) :
    t = .node (.cache s) [tl] ∧ (t.den d).h.map (·.1) = (tl.den d).h.map (·.1) ∧
    (∀ hh, (tl.den d).h = .ok hh → (t.den d).v = (tl.den d).v) := by
  rcases (connected_field h hs x t).1 hf with ⟨t0, hr0, hg⟩ | ⟨hp, _⟩
  · rw [hr t0 hr0] at hg
    obtain ⟨t', hg', rfl⟩ := glue_unary.1 hg
    cases h.wl.field_det (hg'.field hl.mem_names) hl
    exact ⟨rfl, cache_node_den d s _⟩
  · rw [passes_of_output h.wr hrx] at hp
    cases hp

/-- **Node level: a name the cache layer does not cache is untouched**: the connected bag computes under `x` exactly the
term the left bag computes (the same node hash, the same value), through the pass-through clone. -/
theorem node_uncached_field_same {l r : Bag} (h : Sep l r) (hs : SingleIncoming (connected l r).edges)
    (x : String) (hrx : x ∉ names r.outputs) (t : BTerm) :
    (connected l r).Field x t ↔ passes l r x = true ∧ l.Field x t := by
  rw [connected_field h hs x t]
  exact or_iff_right fun ⟨t0, h0, _⟩ => hrx h0.mem_names

/-- non-vacuity (a test): over the input `x = 1` the cached field has the hash and the value of the input -/
example : ((BTerm.node (.cache 0) [.inp "x"]).den { env := fun _ => some (.int 1) }).v = .ok (.int 1) ∧
    (((BTerm.node (.cache 0) [.inp "x"]).den { env := fun _ => some (.int 1) }).h.map (·.1)) = .ok (.leaf (.int 1)) := by
  have h := cache_node_den { env := fun _ => some (.int 1) } 0 (.inp "x")
  simp only [BTerm.den] at h ⊢
  exact ⟨h.2 _ rfl, h.1⟩

theorem cacheBag_output_names {s : Nat} {names : NameSet} {prev : List String} {b : Bag} (h : cacheBag s names prev = .ok b)
    (x : String) (hx : x ∈ CM.names b.outputs) : x ∈ cachedNames names prev := by
  rcases ((mkBag_names h).1 x).1 hx with hx | ⟨hx, _⟩
  · exact names_nodesAt _ (cachedNames names prev) ▸ hx
  · exact names_nodesAt 0 (cachedNames names prev) ▸ hx

/-- **Inserting a cache layer changes no key and no value (node level, unconditional).**  Let `l` be the well-formed container of a
pipeline, `b` the container `CacheToRam / CacheToDisk(names)` builds on top of it and `c = connect_bags(l, b)`.  Every field of `c`
is a field of `l`, with the same node hash for every input and the same (cache-free) value. -/
theorem node_cache_layer_keeps_hashes {l b c : Bag} {s : Nat} {names : NameSet} (hl : l.WF)
    (hb : cacheBag s names (CM.names l.outputs) = .ok b) (hc : connectBags l b = .ok c)
    (x : String) (t : BTerm) (hf : c.Field x t) (d : DenCfg) :
    ∃ tl, l.Field x tl ∧ (t.den d).h.map (·.1) = (tl.den d).h.map (·.1) ∧
      (∀ hh, (tl.den d).h = .ok hh → (t.den d).v = (tl.den d).v) := by
  have hbw := cacheBag_wf hb
  rcases ((connect_step hl hbw hc).2.1 x t).1 hf with ⟨t0, h0, hg⟩ | ⟨_, hlf⟩
  · have hxc := cacheBag_output_names hb x h0.mem_names
    obtain ⟨i, hfi⟩ := cacheBag_field hb x hxc
    cases hbw.field_det h0 hfi
    obtain ⟨t', hg', rfl⟩ := glue_unary.1 hg
    exact ⟨t', hg'.field (List.mem_filter.1 hxc).1, cache_node_den d (s + i) t'⟩
  · exact ⟨t, hlf, rfl, fun _ _ => rfl⟩

end CM.C07
