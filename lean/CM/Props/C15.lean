/-
  C15 — Filter changes only ids; CheckIds only rejects foreign ids.
  Property theorems about CM.Model.Rel (tied to /repo by the S-REL correspondence); then, at the node level, about the container
  of CM.Model.CheckIds.
-/
import CM.Model.Rel
import CM.Proofs.BagStruct
import CM.Proofs.BagConnect
import CM.Proofs.BagGlue
import CM.Proofs.BagField
import CM.Proofs.BagMain
import CM.Proofs.TermDen
import CM.Proofs.CheckIds
import CM.Proofs.FilterBag
namespace CM.C15
open CM

/-- Filter changes nothing but `ids`: the fields and the value of every field on every id (also ids that were
filtered out) are those of the unfiltered dataset. -/
theorem filter_other_fields_untouched (pred : String → Except Err Bool) (d : DS) :
    (filterDS pred d).fields = d.fields ∧ (filterDS pred d).value = d.value := ⟨rfl, rfl⟩

theorem filterM_spec (pred : String → Except Err Bool) (b : String → Bool) :
    ∀ ids : List String, (∀ i ∈ ids, pred i = .ok (b i)) → filterM pred ids = .ok (ids.filter b)
  | [], _ => rfl
  | x :: xs, h => by
    have hx := h x (List.mem_cons_self ..)
    have ih := filterM_spec pred b xs (fun i hi => h i (List.mem_cons_of_mem _ hi))
    simp only [filterM, hx, ih, bind, Except.bind, pure, Except.pure, List.filter_cons]

/-- The new ids are exactly the old ids whose entry satisfies the predicate, in the original order. -/
theorem filter_ids (pred : String → Except Err Bool) (b : String → Bool) (d : DS) (ids : List String)
    (hids : d.ids = .ok ids) (hp : ∀ i ∈ ids, pred i = .ok (b i)) :
    (filterDS pred d).ids = .ok (ids.filter b) := by
  simp only [filterDS, hids, Except.bind]
  exact filterM_spec pred b ids hp

/-- `keep` / `drop` are the membership special cases -/
theorem keep_ids (keep : List String) (d : DS) (ids : List String) (hids : d.ids = .ok ids) :
    (filterDS (fun i => .ok (keep.contains i)) d).ids = .ok (ids.filter keep.contains) :=
  filter_ids _ _ d ids hids (fun _ _ => rfl)

/-- Stacked filters compose to the conjunction of their predicates. -/
theorem stacked_filters (p q : String → Except Err Bool) (bp bq : String → Bool) (d : DS) (ids : List String)
    (hids : d.ids = .ok ids) (hp : ∀ i ∈ ids, p i = .ok (bp i)) (hq : ∀ i ∈ ids, q i = .ok (bq i)) :
    (filterDS q (filterDS p d)).ids = .ok (ids.filter fun i => bp i && bq i) := by
  have h1 := filter_ids p bp d ids hids hp
  have h2 := filter_ids q bq (filterDS p d) (ids.filter bp) h1
    (fun i hi => hq i (List.mem_filter.mp hi).1)
  rw [h2, List.filter_filter]
  congr 1
  apply List.filter_congr
  intro x _
  exact Bool.and_comm ..

/-- CheckIds: every field raises `KeyError` for an id outside the current ids ... -/
theorem checkids_rejects (d : DS) (ids : List String) (hids : d.ids = .ok ids) (f i : String)
    (hi : ids.contains i = false) : (checkIdsDS d).value f i = .error .keyError := by
  simp only [checkIdsDS, hids, hi, Bool.false_eq_true, if_false]

/-- ... and is otherwise transparent. -/
theorem checkids_transparent (d : DS) (ids : List String) (hids : d.ids = .ok ids) (f i : String)
    (hi : ids.contains i = true) : (checkIdsDS d).value f i = d.value f i ∧ (checkIdsDS d).ids = d.ids := by
  simp only [checkIdsDS, hids, hi, if_true, and_self]

/-- non-vacuity -/
example :
    let d : DS := { fields := ["id", "x"], ids := .ok ["b", "a", "c"], value := fun _ i => .ok (.str i) }
    (match (filterDS (fun i => .ok (i != "a")) d).ids with | .ok xs => xs == ["b", "c"] | .error _ => false) = true := by
  decide

/-! ## Node level: `CheckIds._connect` (`CM.Model.CheckIds`, compared with the real container in S-FACTORY) -/

/-- **Node level: CheckIds is value- and hash-transparent for the ids of the dataset.**  Let `b` be the container `CheckIds` builds
on a well-formed container `prev` with the single input `i` whose `ids` do not depend on the key.  Every field of `prev` computing `t`
is a field of `b` computing `t` with the key replaced by the guarded key; if the key is bound to `v` and `v` is among the ids, the new
term has the same node hash and the same value as `t` - for every field and every input. -/
theorem node_checkids_transparent {prev b : Bag} {i idsOut : BNode} (hw : prev.WF) (h : checkIdsBag prev = .ok b)
    (hpi : prev.inputs = [i]) (hids : byName prev.outputs "ids" = some idsOut) (tids : BTerm) (hdi : BDen prev idsOut tids)
    (hcl : tids.closed) (x : String) (t : BTerm) (hf : prev.Field x t) (d : DenCfg) (v : Val) (ids : List Val) (hh : NHash × Val)
    (hx : d.env i.name = some v) (hih : (tids.den d).h = .ok hh) (hiv : (tids.den d).v = .ok (.tup ids))
    (hin : ids.any (·.pyEq v) = true) :
    ∃ t', b.Field x t' ∧ DenEq (t'.den d) (t.den d) := by
  obtain ⟨o, ho, hox, hd⟩ := hf
  have hdb := den_checkIds hw h hpi hids tids hdi hcl hd (hw.ids o (nodes3_out ho))
  obtain ⟨_, _, _, _, rfl⟩ := checkIdsBag_ok h
  refine ⟨_, ⟨o, RawBag.core_outputs_sub ho, hox, hdb⟩, ?_⟩
  apply den_subst
  obtain ⟨hg1, hg2⟩ := checkIds_guard_den d i.name tids v ids hh hx hih hiv
  refine ⟨?_, ?_⟩
  · rw [hg1, BTerm.den_inp hx]; rfl
  · rw [hg2, hin, BTerm.den_inp hx]; rfl

/-- **Node level: a foreign id is rejected.**  In the guarded container the key of every field is the node `CheckIdsEdge(key, ids)`:
for a key that is not among the ids it raises `KeyError` (and has the hash of the key, so the rejection is never cached under another
key). -/
theorem node_checkids_rejects (d : DenCfg) (x : String) (tids : BTerm) (v : Val) (ids : List Val) (hh : NHash × Val)
    (hx : d.env x = some v) (hih : (tids.den d).h = .ok hh) (hiv : (tids.den d).v = .ok (.tup ids))
    (hout : ids.any (·.pyEq v) = false) :
    ((BTerm.node .checkIds [.inp x, tids]).den d).v = .error .keyError ∧
    ((BTerm.node .checkIds [.inp x, tids]).den d).h.map (·.1) = .ok (.leaf v) := by
  obtain ⟨hg1, hg2⟩ := checkIds_guard_den d x tids v ids hh hx hih hiv
  exact ⟨by rw [hg2, hout]; rfl, hg1⟩

/-- **Node level: Filter changes only the ids** (`CM.Model.FilterBag` = `Filter._prepare_container` + `DynamicConnectLayer._connect`,
compared with the real containers in S-FACTORY/filter).  For every well-formed previous container and whatever predicate graph the
filter edge `e` carries: the result is well-formed; every field other than the keys computes exactly the term it computed before -
the same value and the same node hash on every input; the keys are the filter edge applied to the previous keys; no name appears
or disappears. -/
theorem node_filter_changes_only_ids {l b c : Bag} {e : EdgeK} {keys : String} (hl : l.WF) (hb : filterBag e keys = .ok b)
    (he : e ≠ .identity) (hc : connectBags l b = .ok c) :
    c.WF ∧
    (∀ x, x ≠ keys → ∀ t, c.Field x t ↔ l.Field x t) ∧
    (∀ t, c.Field keys t ↔ ∃ tk, Glue l (.inp keys) tk ∧ t = .node e [tk]) ∧
    (∀ x, x ∈ names c.outputs ↔ x = keys ∨ x ∈ names l.outputs) := by
  have hbw := filterBag_wf hb
  obtain ⟨hcw, hfield, hnames, _⟩ := connect_step hl hbw hc
  have hown := fun x => (filterBag_names hb x).1
  have hp : ∀ x, x ≠ keys → passes l b x = true := fun x hx => passes_iff.2 (.inl ((filterBag_names hb x).2.2 hx))
  refine ⟨hcw, fun x hx t => ?_, fun t => ?_, fun x => ?_⟩
  · rw [hfield, and_iff_right (hp x hx)]
    exact or_iff_right fun ⟨t0, h0, _⟩ => hx ((hown x).1 h0.mem_names)
  · rw [connect_defined hl hbw hc (filterBag_field hb he), glue_unary]
  · rw [hnames, hown]
    by_cases hx : x = keys
    · simp [hx]
    · simp [hx, hp x hx]

/-- non-vacuity (a test): the container of a filter exists and is well-formed -/
example : ∃ b, filterBag (.function "$filter" [] []) "ids" = .ok b ∧ b.wfB = true := ⟨_, rfl, by decide +kernel⟩

end CM.C15
