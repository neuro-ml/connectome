/-
  C16 — Join implements inner/left/right/outer relational joins on key fields.
  Property theorems about CM.Model.Rel (tied to /repo by the S-REL correspondence).
-/
import CM.Proofs.Basics
import CM.Proofs.RelLemmas
namespace CM.C16
open CM

/-- the key of entry `i` of dataset `d`: Join's `to_key` of the tuple of its key-field values (the default `_maybe_to_hash_id`,
the model's `joinKey`; not GroupBy's `toKey`) -/
def keyOf (d : DS) (on : List String) (i : String) : Except Err String :=
  (on.mapM fun f => d.value f i).bind joinKey

/-- **Keys are unique on each side.**  When the key table of one side is built without error, it lists every id
of that side exactly once, with its key, and no key occurs twice; hence two entries of one side with the same key
tuple (or a non-injective `to_key`) make the join raise. -/
theorem side_keys_spec (d : DS) (on : List String) :
    ∀ (ids : List String) (m : List (String × String)), sideKeys d on ids = .ok m →
      m.map (·.2) = ids ∧ (m.map (·.1)).Nodup ∧ ∀ k i, (k, i) ∈ m → keyOf d on i = .ok k := by
  intro ids
  induction ids with
  | nil => intro m h; cases h; simp
  | cons i rest ih =>
    intro m h
    simp only [sideKeys, bind_eq_ok] at h
    obtain ⟨vals, hv, k, hk, m', hr, h⟩ := h
    obtain ⟨hnew, ⟨⟩⟩ := of_guard_ok h
    obtain ⟨ih1, ih2, ih3⟩ := ih m' hr
    refine ⟨by simp [ih1], List.nodup_cons.mpr ⟨mt any_fst_beq.mpr hnew, ih2⟩, ?_⟩
    intro k' i' hm
    cases hm with
    | head => simp [keyOf, hv, Except.bind, hk]
    | tail _ hm => exact ih3 k' i' hm

/-- duplicate keys on one side are rejected -/
theorem duplicates_rejected (d : DS) (on : List String) (ids : List String) (i j k : String)
    (hi : i ∈ ids) (hj : j ∈ ids) (hne : i ≠ j)
    (hki : keyOf d on i = .ok k) (hkj : keyOf d on j = .ok k) :
    ∀ m, sideKeys d on ids ≠ .ok m := by
  intro m hm
  obtain ⟨h1, h2, h3⟩ := side_keys_spec d on ids m hm
  -- both ids are in the table, under the key `k`: the keys would not be pairwise different
  have mem : ∀ i' ∈ ids, keyOf d on i' = .ok k → (k, i') ∈ m := by
    intro i' hi' hk'
    obtain ⟨⟨k', _⟩, hp, rfl⟩ := List.mem_map.mp (h1 ▸ hi')
    have := h3 k' _ hp
    rw [hk'] at this; cases this; exact hp
  exact hne (congrArg Prod.snd (inj_of_nodup_map h2 _ (mem i hi hki) _ (mem j hj hkj) rfl))

/-- when `joinDS` does not raise, the mapping alone decides the ids: all inner keys, and the one-sided keys the mode
asks for -/
theorem joinDS_ids {l r : DS} {on : List String} {how : JoinMode} {j : DS} (h : joinDS l r on how = .ok j) :
    j.ids = (joinMapping l r on).map fun m =>
      sortDedup (m.inner.map (·.1) ++ (if how == .left || how == .outer then m.leftOnly.map (·.1) else []) ++
                 (if how == .right || how == .outer then m.rightOnly.map (·.1) else [])) := by
  obtain ⟨-, ⟨⟩⟩ := of_guard_ok h
  rfl

/-- **Ids by mode**: the ids of the join are exactly the keys selected by the mode. -/
theorem ids_by_mode (l r : DS) (on : List String) (how : JoinMode) (j : DS) (h : joinDS l r on how = .ok j)
    (m : JoinMap) (hm : joinMapping l r on = .ok m) :
    ∃ ids, j.ids = .ok ids ∧ ∀ k, k ∈ ids ↔
      (k ∈ m.inner.map (·.1) ∨ ((how = .left ∨ how = .outer) ∧ k ∈ m.leftOnly.map (·.1)) ∨
       ((how = .right ∨ how = .outer) ∧ k ∈ m.rightOnly.map (·.1))) := by
  refine ⟨_, (joinDS_ids h).trans (congrArg (Except.map _) hm), fun k => ?_⟩
  simp only [mem_sortDedup, List.mem_append, List.mem_ite_nil_right, Bool.or_eq_true, beq_iff_eq, or_assoc]

/-- a key of neither side is rejected by every data field -/
theorem unknown_key_rejected (l r : DS) (on : List String) (how : JoinMode) (j : DS) (h : joinDS l r on how = .ok j)
    (m : JoinMap) (hm : joinMapping l r on = .ok m) (key f : String) (hf : (f == "id") = false)
    (h1 : m.inner.find? (·.1 == key) = none) (h2 : m.leftOnly.find? (·.1 == key) = none)
    (h3 : m.rightOnly.find? (·.1 == key) = none) : j.value f key = .error .keyError := by
  obtain ⟨-, ⟨⟩⟩ := of_guard_ok h
  -- every branch of the field's lookup (key field, left field, right field) ends in `KeyError`
  simp only [hf, hm, h1, h2, h3, Bool.false_eq_true, ↓reduceIte]
  split
  · rfl
  · split <;> rfl

/-- the inner part of the mapping is exactly the keys present on both sides, with the two matching ids -/
theorem mapping_inner (l r : DS) (on : List String) (m : JoinMap) (hm : joinMapping l r on = .ok m)
    (lids rids : List String) (hl : l.ids = .ok lids) (hr : r.ids = .ok rids)
    (lk rk : List (String × String)) (hlk : sideKeys l on lids = .ok lk) (hrk : sideKeys r on rids = .ok rk) :
    ∀ k i jd, (k, i, jd) ∈ m.inner ↔ ((k, i) ∈ lk ∧ rk.find? (·.1 == k) = some (k, jd)) := by
  simp only [joinMapping, hl, hr, bind, Except.bind, hlk, hrk, pure, Except.pure] at hm
  cases hm
  intro k i jd
  rw [List.mem_filterMap]
  constructor
  · rintro ⟨⟨k', i'⟩, hmem, heq⟩
    obtain ⟨⟨kk, j'⟩, hf, h⟩ := Option.map_eq_some_iff.mp heq
    cases h
    have : kk = k' := by simpa using List.find?_some hf
    exact ⟨hmem, this ▸ hf⟩
  · rintro ⟨hmem, hf⟩
    exact ⟨(k, i), hmem, by rw [hf]; rfl⟩

/-- non-vacuity: an outer join of {a1:u, a2:v} and {b1:v, b2:w} -/
example :
    let l : DS := { fields := ["id", "k", "x"], ids := .ok ["a1", "a2"],
                    value := fun f i => .ok (if f == "k" then .str (if i == "a1" then "u" else "v") else .app "L.x" [.str i] [] []) }
    let r : DS := { fields := ["id", "k", "z"], ids := .ok ["b1", "b2"],
                    value := fun f i => .ok (if f == "k" then .str (if i == "b1" then "v" else "w") else .app "R.z" [.str i] [] []) }
    (match joinDS l r ["k"] .outer with
      | .ok j => (match j.ids with | .ok ids => ids == ["u", "v", "w"] | _ => false) &&
                 (match j.value "z" "u" with | .ok .none => true | _ => false) &&
                 (match j.value "z" "v" with | .ok (.app _ [.str "b1"] _ _) => true | _ => false)
      | .error _ => false) = true := by decide +kernel

end CM.C16
