/-
  C13 — Impure functions are never cached or keyed unless explicitly allowed.
  `detectImpure` (the traversal cache layers run) is sound and complete for reachability of an `ImpureEdge`
  through parents of any edge kind; the static graph hash raises for an impure edge.
-/
import CM.Model.Impure
import CM.Proofs.DenLemmas
namespace CM.C13
open CM

theorem aux_sound (g : Graph) : ∀ fuel n, detectImpureAux g fuel n = true → ReachImpure g n := by
  intro fuel
  induction fuel with
  | zero => intro n h; simp [detectImpureAux] at h
  | succ fuel ih =>
    intro n h
    simp only [detectImpureAux] at h
    cases he : (g.node n).edge with
    | none => simp [he] at h
    | some e =>
      simp only [he, Bool.or_eq_true, List.any_eq_true] at h
      rcases h with h | ⟨p, hp, hr⟩
      · exact .here n e he h
      · exact .step n p e he hp (ih p hr)

theorem aux_complete (g : Graph) (ht : g.Topo) : ∀ n, ReachImpure g n → ∀ fuel, n < fuel → detectImpureAux g fuel n = true := by
  intro n h
  induction h with
  | here n e he hi =>
    intro fuel hf
    cases fuel with
    | zero => omega
    | succ fuel => simp [detectImpureAux, he, hi]
  | step n p e he hp _ ih =>
    intro fuel hf
    cases fuel with
    | zero => omega
    | succ fuel =>
      simp only [detectImpureAux, he, Bool.or_eq_true, List.any_eq_true]
      exact .inr ⟨p, hp, ih fuel (by have := ht n p hp; omega)⟩

/-- a node outside the graph is a leaf -/
theorem edge_some_lt {g : Graph} {n : Nat} {e : EdgeK} (he : (g.node n).edge = some e) : n < g.nodes.length :=
  (List.getElem?_eq_some_iff.1 (node_of_edge he)).1

theorem reach_lt (g : Graph) (n : Nat) (h : ReachImpure g n) : n < g.nodes.length := by
  cases h with
  | here n e he _ | step n p e he _ _ => exact edge_some_lt he

/-- **The traversal is exact.**  For every graph whose parents precede their children, every node and every mix
of edge kinds: `_detect_impure` raises iff an `ImpureEdge` is reachable through parents of any edge kind. -/
theorem detect_impure_iff (g : Graph) (ht : g.Topo) (n : Nat) : detectImpure g n = true ↔ ReachImpure g n := by
  constructor
  · exact aux_sound g _ n
  · intro h
    exact aux_complete g ht n h _ (by have := reach_lt g n h; omega)

/-- the static graph hash of an impure edge raises (`HashError`), whatever it wraps and whatever its inputs -/
theorem impure_hash_graph_raises (inner : EdgeK) (hs : List NHash) : (EdgeK.impure inner).hashGraph hs = .error .hashError := by
  simp [EdgeK.hashGraph]

/-- ... while a by-value wrapper delegates to the edge it wraps (so `@hash_by_value` alone can be keyed) -/
theorem by_value_hash_graph (inner : EdgeK) (hs : List NHash) : (EdgeK.byValue inner).hashGraph hs = inner.hashGraph hs := by
  simp [EdgeK.hashGraph]

/-- non-vacuity: impure behind a cache behind a switch is found; a pure chain is not -/
example :
    let g : Graph := { nodes := [⟨"x", none, []⟩, ⟨"r", some (.impure (.function "r" [] [])), [0]⟩,
                                  ⟨"c", some (.cache 0), [1]⟩, ⟨"s", some (.switch [(.str "a", 0)]), [0, 2]⟩,
                                  ⟨"f", some (.function "f" [] []), [0]⟩], inputs := [0], output := 3 }
    detectImpure g 3 = true ∧ detectImpure g 4 = false := by decide

end CM.C13
