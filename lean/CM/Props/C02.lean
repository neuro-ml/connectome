/-
  C02 — Field resolution across layers: define, inherit, drop; never a stale field.
  Property theorems about CM.Model.Stack (the model is tied to /repo by the S-BAG correspondence); then the same at the node
  level, about `connect_bags` (CM.Model.Bag) and the containers built from class bodies (CM.Model.Factory).
-/
import CM.Proofs.NameSetLaws
import CM.Proofs.StackLemmas
import CM.Proofs.BagField
import CM.Proofs.BagMain
import CM.Proofs.BagWfB
import CM.Proofs.BagCompileOK
import CM.Proofs.BagPipeline
import CM.Proofs.BagTerm
import CM.Proofs.Check
import CM.Proofs.FactoryWF
import CM.Proofs.FactoryChain
namespace CM.C02
open CM

/-- membership is a homomorphism for the operators of `AntiSet` (`&`, `|`, `-`, also mixed with `set`) -/
theorem nameset_laws (a b : NameSet) (x : String) :
    (a.inter b).mem x = (a.mem x && b.mem x) ∧ (a.union b).mem x = (a.mem x || b.mem x) ∧
    (a.diff b).mem x = (a.mem x && !b.mem x) :=
  ⟨NameSet.mem_inter a b x, NameSet.mem_union a b x, NameSet.mem_diff a b x⟩

/-- **No stale field.**  A name that the appended layer does not define, does not inherit and that is not a
persistent field of the prefix is gone: it is not exposed and it is not served as the raw input either, so
asking for it raises `FieldError` instead of being answered by an earlier layer. -/
theorem gone_field (s s' : Sig) (l : Layer) (n : String) (hk : l.kind ≠ .cache) (h : s.step l = .ok s')
    (hd : l.defines n = false) (hi : l.inherits n = false) (hp : s.persistent.contains n = false) :
    s'.field n = .fieldError := by
  obtain ⟨defined, hdef, hout, hvirt⟩ := step_noncache hk h
  have hnot : n ∉ s'.out.map (·.1) := by
    rw [hout]
    simp only [List.map_append, List.mem_append, not_or, definedEntries_names hdef]
    refine ⟨⟨Layer.defines_eq_false.1 hd, fun hm => ?_⟩, fun hm => ?_⟩
    · have hp' : n ∉ s.persistent := by simpa using hp
      simpa [Sig.passes, hi, hp'] using (mem_inheritedEntries_names hm).2
    · simp [Sig.freshNames, hi] at hm
  have hv : s'.virt.mem n = false := by
    rw [hvirt, NameSet.mem_diff, NameSet.mem_inter, inheritSet_mem_false hk hd hi, Bool.and_false, Bool.false_and]
  simp [Sig.field, Sig.get, lookupAssoc_eq_none_iff.2 hnot, hv]

/-- a field's parameters are exactly the raw inputs its term mentions, without repetition (then sorted) -/
theorem signature_minimal (s : Sig) (n : String) (sg : List String) (t : Term) (h : s.field n = .computed sg t) :
    ∀ x, x ∈ sg ↔ x ∈ t.inputs := by
  unfold Sig.field at h
  split at h
  · next t' o hg =>
    injection h with h1 h2
    subst h1; subst h2
    intro x
    simp [List.mem_mergeSort, List.mem_eraseDups]
  · simp at h
  · split at h <;> simp at h

/-- a cache layer exposes exactly the same names, computing exactly the same terms (it only marks them optional) -/
theorem cache_layer_transparent (s s' : Sig) (l : Layer) (hk : l.kind = .cache) (h : s.step l = .ok s') (n : String) :
    s'.field n = s.field n :=
  cache_step_field hk h n

/-- non-vacuity: a two-layer stack in which `b` is dropped (hypotheses of `gone_field` hold) and `a` survives -/
example :
    let src : Layer := { index := 0, kind := .transform, defs := [("a", .fn "f" ["x"]), ("b", .fn "g" ["x"])], params := [],
                         opt := [], persistent := [], inherit := .fin [], inheritIsList := true, cacheNames := none }
    let top : Layer := { index := 1, kind := .transform, defs := [("c", .fn "h" ["a"])], params := [],
                         opt := [], persistent := [], inherit := .fin ["a"], inheritIsList := true, cacheNames := none }
    (match sigOf [src, top] with
      | .ok s => (match s.field "b" with | .fieldError => true | _ => false) && (s.get "a").isSome && (s.get "c").isSome
                 && !top.defines "b" && !top.inherits "b"
      | .error _ => false) = true := by decide +kernel


/-! ### The node level: `connect_bags` itself (`CM.Model.Bag`, tied to /repo by the S-NODE correspondence)

`BDen b n t`: the node `n` of the bag `b` computes the term `t` over the bag's input names; `b.Field x t`: the output named
`x` computes `t`; `Glue l t0 t`: `t` is `t0` with every input name replaced by what the bag `l` computes under that name
(or left as an input if `l` passes the name on from further upstream, or `missing`). -/

/-- **One layer connected to a pipeline** (`connect_bags(left, right)`, through the function the driver runs): for
well-formed operands, if the call succeeds then (1) the result is well-formed again; (2) it exposes a field `x` computing
`t` exactly if the new layer defines `x` as `t0` and `t` is `t0` over the earlier fields, or the new layer passes `x` on
(it inherits it, or `x` is persistent and not redefined) and the earlier pipeline computed `t`; (3) hence the exposed names
are those the layer defines plus the earlier ones it passes on; (4) a name still reaches the raw input iff both let it. -/
theorem node_connect_step {l r0 c : Bag} (hl : l.WF) (hr : r0.WF) (h : connectBags l r0 = .ok c) :
    c.WF ∧
    (∀ x t, c.Field x t ↔ (∃ t0, r0.Field x t0 ∧ Glue l t0 t) ∨ (passes l r0 x = true ∧ l.Field x t)) ∧
    (∀ x, x ∈ names c.outputs ↔ x ∈ names r0.outputs ∨ (x ∈ names l.outputs ∧ passes l r0 x = true)) ∧
    (∀ x, c.virt.mem x = (l.virt.mem x && r0.virt.mem x)) :=
  connect_step hl hr h

/-- **Never a stale field, at the node level**: an earlier field that the new layer neither defines nor passes on is not
exposed by the connected pipeline, whatever the graphs look like. -/
theorem node_no_stale_field {l r0 c : Bag} (hl : l.WF) (hr : r0.WF) (h : connectBags l r0 = .ok c) (x : String)
    (hd : x ∉ names r0.outputs) (hp : passes l r0 x = false) : x ∉ names c.outputs := by
  simp [(connect_step hl hr h).2.2.1 x, hd, hp]

/-- a field computes one thing: two derivations of what a node of a well-formed bag computes agree -/
theorem node_field_functional {b : Bag} (hb : b.WF) {x : String} {t₁ t₂ : BTerm}
    (h₁ : b.Field x t₁) (h₂ : b.Field x t₂) : t₁ = t₂ :=
  hb.field_det h₁ h₂

/-- every bag a chain of layers goes through is well-formed (by induction over the chain, any length) -/
theorem node_chain_wf {head c : Bag} {tail : List Bag} (hh : head.WF) (ht : ∀ b ∈ tail, b.WF)
    (h : connectAll head tail = .ok c) : c.WF :=
  connectAll_wf hh ht h

/-- **From the container to the value the compiled field returns** (C02 with C01): for a well-formed, acyclic bag whose
edges are of the simple kinds (`EdgeK.wf`), the graph compiled for a field (`Bag.compileGraph`: `TreeNode.from_edges` and
`Graph(inputs, node)`) satisfies the hypotheses of `vm_correct` (`node_compile_ok`), and with every used input bound, no scheduled failure and no impure function, the stack machine stops and returns
exactly the value of the term the output node computes - by `node_connect_step` the composition of the layers' functions -
evaluated by the specification; or raises exactly the error that evaluation gives. -/
theorem node_pipeline_value {b : Bag} {o : BNode} {t : BTerm} (hb : b.WF) (hac : acyclicB b.edges = true)
    (hwf : ∀ e ∈ b.edges, e.edge.wf = true) (env : String → Option Val) (w : World)
    (hc : CallOK (b.compileGraph o) env) (hf : w.failAt = []) (hp : w.impureFns = [])
    (hd : BDen b o t) (hnm : t.NoMissing) :
    ∃ N out steps, (∀ fuel, N ≤ fuel → (b.compileGraph o).call env w fuel = some (out, steps)) ∧
      match (t.den (denCfgOf env w)).v with
      | .ok v => ∃ s, out = .done (.val v) s
      | .error e => ∃ s, out = .raised e s :=
  pipeline_value hb hac hwf env w hc hf hp hd hnm

/-- every graph compiled from a checked bag satisfies the hypotheses of `vm_correct`: parents before children (the order in which
`peel`, the model of `detect_cycles`, hands out the edges is topological), declared inputs are leaves, simple edges -/
theorem node_compile_ok {b : Bag} {o : BNode} (hb : b.WF) (hwf : ∀ e ∈ b.edges, e.edge.wf = true) :
    GraphOK (b.compileGraph o) :=
  compile_ok hb.inLeaf hwf

/-- the term function the driver runs is sound for the relation the theorems talk about -/
theorem node_term_sound (b : Bag) (fuel : Nat) (n : BNode) (t : BTerm) (h : b.term fuel n = some t) : BDen b n t :=
  term_sound b fuel n t h

/-- the executable form of the hypothesis, evaluated by the driver on every bag the real code connects -/
theorem node_wf_check_sound {b : Bag} (h : b.wfB = true) : b.WF := wfB_sound h

/-- non-vacuity: a Source-like and a Transform-like bag satisfy the hypotheses and connect -/
example : exSource.wfB = true ∧ exTransform.wfB = true ∧ (connectBags exSource exTransform).toOption.isSome = true := by
  decide +kernel

/-- non-vacuity of `node_pipeline_value`: the connected example bag is well-formed and acyclic, the graph compiled for its
`image` field passes the check, and the term of `image` is `zoom(load(id))` without missing inputs -/
example : (match connectBags exSource exTransform with
    | .ok c => c.wfB && acyclicB c.edges &&
        (match byName c.outputs "image" with
         | some o => c.edges.all (·.edge.wf) && (c.compileGraph o).okB && ((c.term 100 o).map BTerm.noMissingB == some true)
         | none => false)
    | .error _ => false) = true := by
  decide +kernel

/-! ## Node level, from the class body: `interface/factory.py`, `containers/reversible.py` (`CM.Model.Factory`) -/


/-- **Node level, from the class body: what a field of a layer computes.**  In the container the factory builds for a layer
(`CM.Model.Factory`: `GraphFactory`, `SourceFactory`, `TransformFactory`, `ReversibleContainer`), the field `f` computes its
function applied to what its arguments denote: public names are the inputs of those names (for a Source: the key), constructor
arguments (with their defaults) are constants bound per instance, private parameters are their own functions of their own
arguments. -/
theorem node_factory_field {r : RawLayer} {b : Bag} (h : r.factory = .ok b) (f : RawField) (hf : f ∈ r.fields)
    (ts : List BTerm) (hlen : f.args.length = ts.length) (hargs : ∀ q ∈ f.args.zip ts, ArgDen r q.1 q.2) :
    b.Field f.name (.node (.function f.f [] []) ts) :=
  factory_field h f hf ts hlen hargs

/-- **The container of every layer the factory accepts is well-formed**, for every class body: the hypotheses of
`node_connect_step`, `node_chain_wf` and `node_pipeline_value` need not be assumed for layers built through the public API. -/
theorem node_factory_wf {r : RawLayer} {b : Bag} (h : r.factory = .ok b) : b.WF := factory_wf h

/-- **A layer on top of a pipeline** (`pipeline >> layer`): the new field computes the layer's function over the layer's private
parameters and constructor arguments and over what the pipeline computes under the names of its public arguments; the result is
well-formed again, so the statement applies to the next layer as well (stacks of any height, by `node_chain_wf`). -/
theorem node_layer_over_pipeline {l b c : Bag} {r : RawLayer} (hl : l.WF) (hb : r.factory = .ok b) (hc : connectBags l b = .ok c)
    (f : RawField) (hf : f ∈ r.fields) (ts : List BTerm) (hlen : f.args.length = ts.length)
    (hargs : ∀ q ∈ f.args.zip ts, ArgDen r q.1 q.2) :
    c.WF ∧ ∀ t, c.Field f.name t ↔ Glue l (.node (.function f.f [] []) ts) t :=
  layer_over_pipeline hl hb hc f hf ts hlen hargs

/-- `class T(Transform): __inherit__ = 'b'; _k = 2; def _p(a): ...; def x(a, _p, _k): ...` -/
def exLayer : RawLayer :=
  { k := "transform", cls := "T",
    fields := [{ name := "x", f := "T.x", args := ["a", "_p", "_k"] }],
    params := [{ name := "_p", f := "T._p", args := ["a"] }],
    consts := [("_k", .int 2)], inherit := .names ["b"] }

/-- non-vacuity (a test): `exLayer` is accepted by the factory model -/
example : (match exLayer.factory with | .ok b => b.wfB && b.outputs.length == 1 | .error _ => false) = true := by
  decide +kernel

/-- non-vacuity (a test): the arguments of `x` denote the input `a`, the constant 2, `T._p(a)` -/
example : ArgDen exLayer "a" (.inp "a") ∧ ArgDen exLayer "_k" (.node (.constant (.int 2)) []) ∧
    ArgDen exLayer "_p" (.node (.function "T._p" [] []) [.inp "a"]) := by
  have hfa : exLayer.fwdArg "a" = "a" := by decide +kernel
  have ha : ArgDen exLayer "a" (.inp "a") := hfa ▸ ArgDen.pub (by decide +kernel) (by decide +kernel)
  refine ⟨ha, .const (by decide +kernel) (by simp [exLayer]), ?_⟩
  refine .param { name := "_p", f := "T._p", args := ["a"] } (by decide +kernel) (by simp [exLayer]) rfl rfl ?_
  intro q hq
  simp only [List.zip_cons_cons, List.zip_nil_right, List.mem_singleton] at hq
  subst hq
  exact ha

/-- `class Z(Transform): def y(x): ...; def z(y: Output): ...` - the argument of `z` is the layer's own output `y`
(written `out:y`) -/
def exOutLayer : RawLayer :=
  { k := "transform", cls := "Z",
    fields := [{ name := "y", f := "Z.y", args := ["x"], opt := true }, { name := "z", f := "Z.z", args := ["out:y"] }] }

/-- the input `x` is NOT optional: the required field `z` needs it through the optional `y` (only the output `y` carries the mark) -/
example : (match exOutLayer.factory with
    | .ok b => b.wfB && b.inputs.length == 1 && b.optional.all (fun n => n.name != "x") && b.optional.length == 1
    | .error _ => false) = true := by
  decide +kernel

/-- non-vacuity (a test): `out:y` denotes `Z.y(x)`, so `z` computes `Z.z(Z.y(x))` (`node_factory_field`) and needs the input `x` -/
example : ArgDen exOutLayer "out:y" (.node (.function "Z.y" [] []) [.inp "x"]) := by
  have hfx : exOutLayer.fwdArg "x" = "x" := by decide +kernel
  refine .out { name := "y", f := "Z.y", args := ["x"], opt := true } (by decide +kernel) (by decide +kernel) (by simp [exOutLayer])
    (by decide +kernel) rfl ?_
  intro q hq
  simp only [List.zip_cons_cons, List.zip_nil_right, List.mem_singleton] at hq
  subst hq
  exact hfx ▸ ArgDen.pub (by decide +kernel) (by decide +kernel)

/-- **Node level, from the class body: which fields `pipeline >> layer` exposes.**  Exactly (1) the fields the layer defines,
(2) the names it inherits (`__inherit__` as a list or a bare string, `True`, everything but `__exclude__` - normalised as
`TransformFactory._after_collect` / `normalize_inherit` do) that the pipeline has, or that the layer consumes itself (then it passes
its own input through), (3) for a Source the persistent names it reads as inputs, (4) the persistent fields of the pipeline (the key,
the meta fields of a Source) that the layer neither defines nor passes through itself.  Any other earlier field is gone - for every
well-formed pipeline container and every layer description the factory accepts. -/
theorem node_layer_exposes {l b c : Bag} {r : RawLayer} (hl : l.WF) (hb : r.factory = .ok b) (hc : connectBags l b = .ok c)
    (x : String) :
    x ∈ names c.outputs ↔
      x ∈ r.layout.outputs ∨
      (r.fwdVirt.mem x = true ∧ (x ∈ r.layout.inputs ∨ x ∈ names l.outputs)) ∨
      (x ∈ r.layout.inputs ∧ x ∈ r.persistentNames ∧ x ∉ r.layout.outputs) ∨
      (x ∈ names l.outputs ∧ x ∈ l.persistent ∧ x ∉ names b.outputs) :=
  layer_exposes hl hb hc x

/-- the names the container of a single layer exposes and still passes on from upstream -/
theorem node_factory_names {r : RawLayer} {b : Bag} (h : r.factory = .ok b) :
    (∀ x, x ∈ names b.outputs ↔ x ∈ r.layout.outputs ∨
        (x ∈ r.layout.inputs ∧ (r.fwdVirt.mem x = true ∨ x ∈ r.persistentNames) ∧ x ∉ r.layout.outputs)) ∧
    (∀ x, b.virt.mem x = (r.fwdVirt.mem x &&
        !(x ∈ r.layout.inputs ∧ (r.fwdVirt.mem x = true ∨ x ∈ r.persistentNames) ∧ x ∉ r.layout.outputs : Bool))) ∧
    b.persistent = r.persistentNames :=
  factory_names h

/-- non-vacuity (a test): the example layer defines `x`, inherits `b` and consumes `a`: its container exposes `x` only, passes `b` on -/
example : (match exLayer.factory with
    | .ok b => names b.outputs == ["x"] && b.virt.mem "b" && !b.virt.mem "a" && !b.virt.mem "x"
    | .error _ => false) = true := by decide +kernel

end CM.C02
