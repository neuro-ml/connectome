/-
  C16 (continued) — the container `Join` builds, node by node (CM.Model.JoinBag, compared with the real `JoinContainer` by S-FACTORY/join).
-/
import CM.Proofs.BagStruct
import CM.Proofs.MkBag
import CM.Proofs.JoinBag
namespace CM.C16
open CM

/-- **Node level: the container of `Join`.**  If `JoinContainer(left, right, on, ...)` is built: both sides have one input (`lk`, `rk`) and an `ids`
output; the key fields are pairwise different and none is a key name; the container has ONE input, the new `id`, handed on unchanged as the output `id`;
the mapping is `JoinMapping(left ids, right ids)`; the old key of each side is computed from (new id, memoised mapping) and reaches that side's input
through a hash barrier - so every field of either side is evaluated at the old key the mapping assigns; the new `ids` come from the mapping alone;
all edges of both sides are kept. -/
theorem node_join_container {l r0 b : Bag} {on : List String} {how : String} {cached : Bool} (h : joinBag l r0 on how cached = .ok b) :
    ∃ lk rk kl kr, l.inputs = [lk] ∧ (r0.shift l.next).inputs = [rk] ∧
      byName l.outputs "ids" = some kl ∧ byName (r0.shift l.next).outputs "ids" = some kr ∧
      hasDupStr on = false ∧ (∀ x ∈ on, x ≠ lk.name ∧ x ≠ rk.name) ∧
      b.inputs = [⟨(r0.shift l.next).next + 3, "id"⟩] ∧
      identityEdge ⟨(r0.shift l.next).next + 3, "id"⟩ ⟨(r0.shift l.next).next + 4, "id"⟩ ∈ b.edges ∧
      (⟨(r0.shift l.next).next + 4, "id"⟩ : BNode) ∈ b.outputs ∧
      ({ edge := joinMappingK, ins := [kl, kr], out := ⟨(r0.shift l.next).next, "$mapping"⟩ } : BEdge) ∈ b.edges ∧
      ({ edge := joinIdK 0, ins := [⟨(r0.shift l.next).next + 3, "id"⟩, ⟨(r0.shift l.next).next + 2, "$mapping"⟩],
         out := ⟨(r0.shift l.next).next + 5, "$aux"⟩ } : BEdge) ∈ b.edges ∧
      ({ edge := .barrier, ins := [⟨(r0.shift l.next).next + 5, "$aux"⟩], out := lk } : BEdge) ∈ b.edges ∧
      ({ edge := joinIdK 1, ins := [⟨(r0.shift l.next).next + 3, "id"⟩, ⟨(r0.shift l.next).next + 2, "$mapping"⟩],
         out := ⟨(r0.shift l.next).next + 6, "$aux"⟩ } : BEdge) ∈ b.edges ∧
      ({ edge := .barrier, ins := [⟨(r0.shift l.next).next + 6, "$aux"⟩], out := rk } : BEdge) ∈ b.edges ∧
      ({ edge := joinIdsK how, ins := [⟨(r0.shift l.next).next + 2, "$mapping"⟩], out := ⟨(r0.shift l.next).next + 7, "ids"⟩ } : BEdge) ∈ b.edges ∧
      (⟨(r0.shift l.next).next + 7, "ids"⟩ : BNode) ∈ b.outputs ∧
      (∀ e ∈ l.edges, e ∈ b.edges) ∧ (∀ e ∈ (r0.shift l.next).edges, e ∈ b.edges) := by
  obtain ⟨lk, rk, kl, kr, J⟩ := joinBag_ok h
  have hed := mkBag_edges J.built
  have hout : ∀ o ∈ [(⟨(r0.shift l.next).next + 4, "id"⟩ : BNode), ⟨(r0.shift l.next).next + 7, "ids"⟩], o ∈ b.outputs :=
    fun o ho => mkBag_outputs J.built o (joinRaw_outputs_mem (List.mem_append_left _ ho))
  have hmap := hed _ (joinRaw_edges_mem (.inr (.inr (.inl (List.mem_append_left _ (List.mem_singleton.2 rfl))))))
  have hkey := fun e he => hed e (joinRaw_edges_mem (.inr (.inr (.inr (.inl he)))))
  simp only [joinKeyEdges, List.forall_mem_cons] at hkey hout
  obtain ⟨haux1, hlk, haux2, hrk, hid, hids, _⟩ := hkey
  exact ⟨lk, rk, kl, kr, J.leftInput, J.rightInput, J.leftIds, J.rightIds, J.onNodup, J.onNotKey, mkBag_inputs J.built, hid, hout.1, hmap, haux1, hlk, haux2, hrk, hids, hout.2.1,
    fun e he => hed e (joinRaw_edges_mem (.inl he)), fun e he => hed e (joinRaw_edges_mem (.inr (.inl he)))⟩

/-- **Node level: every key field of a `Join` is a `SwitchBranch` over both sides.**  For every field `x` the join is made on, the container has an output
`x` produced by `SwitchBranch(new id, mapping, left x, right x)`, `left x` / `right x` being the outputs of that name of the two sides. -/
theorem node_join_key_fields {l r0 b : Bag} {on : List String} {how : String} {cached : Bool} (h : joinBag l r0 on how cached = .ok b) :
    ∀ x ∈ on, ∃ loc a c, loc ∈ b.outputs ∧ loc.name = x ∧ a ∈ l.outputs ∧ a.name = x ∧ c ∈ (r0.shift l.next).outputs ∧ c.name = x ∧
      ({ edge := .switchBranch, ins := [⟨(r0.shift l.next).next + 3, "id"⟩, ⟨(r0.shift l.next).next + 2, "$mapping"⟩, a, c], out := loc } : BEdge) ∈ b.edges := by
  intro x hx
  obtain ⟨lk, rk, kl, kr, J⟩ := joinBag_ok h
  obtain ⟨hxl, hxr⟩ := mem_joinInter.1 ((J.onInter x).1 hx)
  obtain ⟨a, ha⟩ := byName_exists hxl
  obtain ⟨c, hc⟩ := byName_exists hxr
  obtain ⟨loc, hloc, hname, he⟩ := joinOn_mem (n := (r0.shift l.next).next) hx ha hc
  have ha' := byName_some ha
  have hc' := byName_some hc
  exact ⟨loc, a, c, mkBag_outputs J.built _ (joinRaw_outputs_mem (List.mem_append_right _ hloc)), hname, (mem_joinOwn.1 ha'.1).1, ha'.2,
    (mem_joinOwn.1 hc'.1).1, hc'.2, mkBag_edges J.built _ (joinRaw_edges_mem (.inr (.inr (.inr (.inr he)))))⟩

/-- **Node level: in an inner or left join the fields of the left side alone are handed on untouched.**  When the left side can never be missing
(`how` is neither `right` nor `outer`), every output of the left container that is neither `ids`, nor its key, nor a field of the right side is an
output of the joined container itself - the very node, no guard in between. -/
theorem node_join_left_fields_pass {l r0 b : Bag} {on : List String} {how : String} {cached : Bool} (h : joinBag l r0 on how cached = .ok b)
    (hg : (how == "right" || how == "outer") = false) :
    ∃ lk, l.inputs = [lk] ∧ ∀ o ∈ l.outputs, o.name ≠ "ids" → o.name ≠ lk.name →
      (∀ c ∈ (r0.shift l.next).outputs, c.name ≠ o.name) → o ∈ b.outputs := by
  obtain ⟨lk, rk, kl, kr, J⟩ := joinBag_ok h
  refine ⟨lk, J.leftInput, fun o ho h1 h2 hno => mkBag_outputs J.built o (joinRaw_left_pass hg ?_)⟩
  refine mem_joinOnly.2 ⟨mem_joinOwn.2 ⟨ho, h1, h2⟩, fun hm => ?_⟩
  obtain ⟨c, hc, hcn⟩ := List.mem_map.1 (mem_joinInter.1 hm).2
  exact hno c (mem_joinOwn.1 hc).1 hcn

/-- two datasets as containers: input `id`, outputs `id`, `ids`, the key field `k` and one own field -/
def exSide (own : String) : Bag :=
  { inputs := [⟨0, "id"⟩], outputs := [⟨0, "id"⟩, ⟨1, "ids"⟩, ⟨2, "k"⟩, ⟨3, own⟩],
    edges := [{ edge := .constant (.str "the ids"), ins := [], out := ⟨1, "ids"⟩ }, { edge := .function "D.k" [] [], ins := [⟨0, "id"⟩], out := ⟨2, "k"⟩ },
              { edge := .function "D.own" [] [], ins := [⟨0, "id"⟩], out := ⟨3, own⟩ }],
    virt := .fin [], persistent := ["ids"], optional := [], ctx := .no, next := 4 }

/-- non-vacuity (a test): an outer join of the two on `k` builds a container with the outputs `id`, `ids`, `k`, `x`, `z` and one input; joining on
the key name, on a repeated field or with a conflicting field is rejected -/
example :
    (match joinBag (exSide "x") (exSide "z") ["k"] "outer" false with
     | .ok b => b.outputs.map (·.name) == ["id", "ids", "k", "x", "z"] && b.inputs.length == 1 && b.wfB
     | .error _ => false) = true ∧
    (match joinBag (exSide "x") (exSide "z") ["k", "id"] "inner" false with | .error .value => true | _ => false) = true ∧
    (match joinBag (exSide "x") (exSide "z") ["k", "k"] "inner" false with | .error .duplicates => true | _ => false) = true ∧
    (match joinBag (exSide "x") (exSide "x") ["k"] "inner" true with | .error .value => true | _ => false) = true := by
  decide +kernel

end CM.C16
