/-
  C14 — Merge routes every id to the one dataset that owns it.
  Property theorems about CM.Model.Rel (tied to /repo by the S-REL correspondence); then, at the node level, about the container
  of CM.Model.Merge.
-/
import CM.Model.Merge
import CM.Proofs.Basics
import CM.Proofs.RelLemmas
import CM.Proofs.TermDen
import CM.Proofs.SwitchDen
import CM.Proofs.Merge
namespace CM.C14
open CM

/-- what `mergeDS` has computed when it succeeds: the id lists of the parts, the owner table, and `m` read off the table -/
theorem merge_ok (parts : List DS) (m : DS) (h : mergeDS parts = .ok m) :
    ∃ idLists table, idsOf parts = .ok idLists ∧ ownerTable idLists 0 [] = .ok table ∧
      m.ids = .ok (sortDedup (table.map (·.1))) ∧
      (∀ f i, m.value f i = match ownerOf table i with
        | none => .error .valueError
        | some k => match parts[k]? with | some p => p.value f i | none => .error .internal) := by
  simp only [mergeDS, bind_eq_ok] at h
  obtain ⟨idLists, h1, table, h2, h⟩ := h
  cases h
  exact ⟨idLists, table, h1, h2, rfl, fun _ _ => rfl⟩

/-- **Routing.**  For every id of a dataset of a merge that was accepted, every field returns exactly what that
dataset returns (value, and in the code also the branch's hash: the switch reports the selected parent's hash). -/
theorem routes_to_owner (parts : List DS) (m : DS) (h : mergeDS parts = .ok m)
    (k : Nat) (p : DS) (hp : parts[k]? = some p) (ids : List String) (hids : p.ids = .ok ids)
    (i : String) (hi : i ∈ ids) (f : String) : m.value f i = p.value f i := by
  obtain ⟨idLists, table, h1, h2, _, hv⟩ := merge_ok parts m h
  obtain ⟨ids', hids', hk⟩ := idsOf_get parts idLists h1 k p hp
  cases hids.symm.trans hids'
  have := ((ownerTable_spec idLists 0 [] table h2).2.1 k ids i hk hi).2
  rw [hv, this]
  simp [hp]

/-- an id that no dataset owns is rejected by every field -/
theorem unknown_id_rejected (parts : List DS) (m : DS) (h : mergeDS parts = .ok m)
    (i : String) (hi : ∀ p ∈ parts, ∀ ids, p.ids = .ok ids → i ∉ ids) (f : String) :
    m.value f i = .error .valueError := by
  obtain ⟨idLists, table, h1, h2, _, hv⟩ := merge_ok parts m h
  -- every id list is the ids of one of the datasets
  have hall : ∀ ids ∈ idLists, i ∉ ids := fun ids hm => by
    obtain ⟨p, hp, hpi⟩ := List.mem_map.1 (idsOf_ok parts idLists h1 ▸ List.mem_map_of_mem (f := Except.ok) hm)
    exact hi p hp ids hpi
  have := (ownerTable_spec idLists 0 [] table h2).2.2 i rfl hall
  rw [hv, this]

/-- overlapping ids are rejected: a dataset repeating an id of an earlier one makes the construction raise -/
theorem overlap_rejected (ids₁ ids₂ : List String) (rest : List (List String)) (i : String)
    (h1 : i ∈ ids₁) (h2 : i ∈ ids₂) (hfresh : (ids₁.any fun j => ([] : List (String × Nat)).any fun p => p.1 == j) = false) :
    ownerTable (ids₁ :: ids₂ :: rest) 0 [] = .error .runtimeError := by
  simp only [ownerTable, hfresh]
  exact ownerTable_overlap ids₂ rest 1 _ i h2 0 (by simp [ownerOf_map, h1])

/-- the ids of a merge are the sorted union (every owned id and nothing else) -/
theorem ids_are_union (parts : List DS) (m : DS) (h : mergeDS parts = .ok m) :
    ∃ table ids, m.ids = .ok ids ∧ (∀ i, i ∈ ids ↔ (ownerOf table i).isSome) ∧
      ∃ idLists, idsOf parts = .ok idLists ∧ ownerTable idLists 0 [] = .ok table := by
  obtain ⟨idLists, table, h1, h2, hids, _⟩ := merge_ok parts m h
  refine ⟨table, _, hids, ?_, idLists, h1, h2⟩
  intro i
  simp only [mem_sortDedup, ownerOf, Option.isSome_map, List.mem_map, List.find?_isSome, beq_iff_eq]

/-- non-vacuity: two disjoint datasets; `b1` is routed to the second one, `zz` is rejected -/
example :
    let a : DS := { fields := ["id", "x"], ids := .ok ["a2", "a1"], value := fun _ i => .ok (.app "A.x" [.str i] [] []) }
    let b : DS := { fields := ["id", "x"], ids := .ok ["b1"], value := fun _ i => .ok (.app "B.x" [.str i] [] []) }
    (match mergeDS [a, b] with
      | .ok m => (match m.ids with | .ok ids => ids == ["a1", "a2", "b1"] | _ => false) &&
                 (match m.value "x" "b1" with | .ok (.app f _ _ _) => f == "B.x" | _ => false) &&
                 (match m.value "x" "zz" with | .error .valueError => true | _ => false)
      | .error _ => false) = true := by decide +kernel

/-! ## Node level: the `SwitchEdge` of `Merge._merge_containers` (`CM.Model.Merge`, compared with the real container in S-FACTORY) -/

/-- **A merged field is its owner's field**: if the key evaluates to `v` and the routing table sends `v` to branch `idx`, the node
the Merge creates for the field has the node hash of that branch (so caches are shared with the unmerged dataset) and its value,
for every input, whatever the other branches are. -/
theorem node_switch_is_owner (d : DenCfg) (table : List (Val × Nat)) (key : BTerm) (branches : List BTerm) (v : Val) (idx : Nat)
    (tb : BTerm) (hk : (key.den d).v = .ok v) (hl : tableLookup table v = some idx) (hb : branches[idx]? = some tb) :
    ((BTerm.node (.switch table) (key :: branches)).den d).h.map (·.1) = (tb.den d).h.map (·.1) ∧
    (∀ hh, (tb.den d).h = .ok hh → ((BTerm.node (.switch table) (key :: branches)).den d).v = (tb.den d).v) :=
  switch_den d table key branches v idx tb hk hl hb

/-- an id no dataset owns is rejected with `ValueError`, never resolved arbitrarily -/
theorem node_switch_unknown (d : DenCfg) (table : List (Val × Nat)) (key : BTerm) (branches : List BTerm) (v : Val)
    (hk : (key.den d).v = .ok v) (hl : tableLookup table v = none) :
    ((BTerm.node (.switch table) (key :: branches)).den d).h = .error .valueError ∧
    ((BTerm.node (.switch table) (key :: branches)).den d).v = .error .valueError :=
  switch_unknown d table key branches v hk hl

/-- **Node level: what a field of the merged container computes.**  For every routing table and any number of well-formed parts
with one input each: under a name `x` (other than the keys) that every part exposes, the container `Merge._merge_containers` builds
computes the switch over the key input and exactly the parts' own terms, in the order of the parts (each part embedded unchanged:
`den_embed`, the frozen copies occupying disjoint ranges of identities). -/
theorem node_merge_field {table : List (Val × Nat)} {parts0 : List Bag} {keysName : String} {b : Bag}
    (h : mergeBags table parts0 keysName = .ok b) (hw : ∀ p ∈ parts0, p.WF)
    (x : String) (hx : x ≠ keysName) (outs0 : List BNode) (ts : List BTerm)
    (hlo : outs0.length = parts0.length) (hlt : ts.length = parts0.length)
    (hf : ∀ k (hk : k < parts0.length), outs0[k]'(hlo ▸ hk) ∈ parts0[k].outputs ∧ (outs0[k]'(hlo ▸ hk)).name = x ∧
      BDen parts0[k] (outs0[k]'(hlo ▸ hk)) (ts[k]'(hlt ▸ hk))) :
    ∃ inName, b.Field x (.node (.switch table) (.inp inName :: ts)) :=
  merge_field h hw x hx outs0 ts hlo hlt hf

/-- **Merge routes every id to the dataset that owns it** (node level, end to end): under the hypotheses of `node_merge_field`, if the
key input is bound to `v` and the routing table sends `v` to part `idx`, the merged field has the node hash of that part's field (so
caches are shared with the unmerged dataset) and, whenever that hash exists, its value. -/
theorem node_merge_is_owner {table : List (Val × Nat)} {parts0 : List Bag} {keysName : String} {b : Bag}
    (h : mergeBags table parts0 keysName = .ok b) (hw : ∀ p ∈ parts0, p.WF)
    (x : String) (hx : x ≠ keysName) (outs0 : List BNode) (ts : List BTerm)
    (hlo : outs0.length = parts0.length) (hlt : ts.length = parts0.length)
    (hf : ∀ k (hk : k < parts0.length), outs0[k]'(hlo ▸ hk) ∈ parts0[k].outputs ∧ (outs0[k]'(hlo ▸ hk)).name = x ∧
      BDen parts0[k] (outs0[k]'(hlo ▸ hk)) (ts[k]'(hlt ▸ hk)))
    (d : DenCfg) (v : Val) (idx : Nat) (hidx : idx < parts0.length) (hl : tableLookup table v = some idx)
    (henv : ∀ n, d.env n = some v) :
    ∃ t, b.Field x t ∧ (t.den d).h.map (·.1) = ((ts[idx]'(hlt ▸ hidx)).den d).h.map (·.1) ∧
      (∀ hh, ((ts[idx]'(hlt ▸ hidx)).den d).h = .ok hh → (t.den d).v = ((ts[idx]'(hlt ▸ hidx)).den d).v) := by
  obtain ⟨inName, hfield⟩ := merge_field h hw x hx outs0 ts hlo hlt hf
  refine ⟨_, hfield, ?_⟩
  exact switch_den d table (.inp inName) ts v idx _ (congrArg Den.v (BTerm.den_inp (henv inName))) hl (by simp [hlt ▸ hidx])

end CM.C14
