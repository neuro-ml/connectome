/-
  C17 (continued) — the container `GroupBy` builds, node by node (CM.Model.GroupBag, compared with the real `_prepare_container` by S-FACTORY/group).
-/
import CM.Proofs.Basics
import CM.Proofs.BagSem
import CM.Proofs.BagStruct
import CM.Proofs.BagField
import CM.Proofs.MkBag
import CM.Proofs.GroupBag
namespace CM.C17
open CM

/-- **Node level: the container of `GroupBy` re-keys every field.**  If `GroupBy._prepare_container(previous)` succeeds: the container has ONE input, the
new `id`, which is also its output; the mapping node is a memory cache over `GroupMapping` applied to the PREVIOUS `ids` output; every field of the
previous container other than `id`/`ids` has an output of its name produced by a `GroupEdge` over (new id, mapping) - and nothing else; the new `ids`
are computed from the mapping alone. -/
theorem node_groupby_container {prev b : Bag} (h : groupByBag prev = .ok b) :
    ∃ keys, byName prev.outputs "ids" = some keys ∧ b.inputs = [⟨prev.next, "id"⟩] ∧ (⟨prev.next, "id"⟩ : BNode) ∈ b.outputs ∧
      ({ edge := groupMappingK, ins := [keys], out := ⟨prev.next + 1, "$mapping"⟩ } : BEdge) ∈ b.edges ∧
      ({ edge := .cache 0, ins := [⟨prev.next + 1, "$mapping"⟩], out := ⟨prev.next + 2, "$mapping"⟩ } : BEdge) ∈ b.edges ∧
      (∀ f ∈ prev.outputs, f.name ≠ "ids" → f.name ≠ "id" → ∃ o ∈ b.outputs, o.name = f.name ∧ prev.next + 3 ≤ o.id ∧
        ({ edge := groupEdgeK, ins := [⟨prev.next, "id"⟩, ⟨prev.next + 2, "$mapping"⟩], out := o } : BEdge) ∈ b.edges) ∧
      (∃ o ∈ b.outputs, o.name = "ids" ∧ prev.next + 3 ≤ o.id ∧
        ({ edge := sortedIdsK, ins := [⟨prev.next + 2, "$mapping"⟩], out := o } : BEdge) ∈ b.edges) ∧
      (∀ e ∈ prev.edges, e ∈ b.edges) := by
  obtain ⟨i, keys, _, hk, _, h⟩ := groupByBag_ok h
  have hin := mkBag_inputs h
  have hed := mkBag_edges h
  have hout := mkBag_outputs h
  -- the edges and outputs of `groupByRaw`, group by group
  simp only [groupByRaw, List.forall_mem_append, List.forall_mem_cons, List.forall_mem_map] at hed hout
  obtain ⟨⟨⟨hprev, hmap, hcache, _⟩, hgroup⟩, hsorted, _⟩ := hed
  obtain ⟨⟨hid, houts⟩, hids, _⟩ := hout
  refine ⟨keys, hk, hin, hid, hmap, hcache, fun f hf h1 h2 => ?_, ⟨_, hids, rfl, by simp, hsorted⟩, hprev⟩
  obtain ⟨j, hj⟩ := exists_zip_right List.length_range (mem_groupFields.2 ⟨hf, h1, h2⟩)
  exact ⟨⟨prev.next + 3 + j, f.name⟩, houts _ hj, rfl, by simp, hgroup _ hj⟩

/-- **Node level: what a grouped field computes.**  In the container of `GroupBy`, if the previous `ids` node computes `tk`, every field of the previous
container other than `id`/`ids` is a field of the new one and computes `GroupEdge(new id, cache(GroupMapping(tk)))`: a function of the NEW id and of
the mapping only, the mapping being derived from the previous `ids` alone (and memoised); the new `ids` compute `sorted(cache(GroupMapping(tk)))`. -/
theorem node_groupby_field_term {prev b : Bag} (h : groupByBag prev = .ok b) :
    ∃ keys, byName prev.outputs "ids" = some keys ∧ ∀ tk, BDen b keys tk →
      (∀ f ∈ prev.outputs, f.name ≠ "ids" → f.name ≠ "id" →
        b.Field f.name (.node groupEdgeK [.inp "id", .node (.cache 0) [.node groupMappingK [tk]]])) ∧
      b.Field "ids" (.node sortedIdsK [.node (.cache 0) [.node groupMappingK [tk]]]) := by
  obtain ⟨keys, hk, hin, _, hmap, hcache, hfields, hids, _⟩ := node_groupby_container h
  refine ⟨keys, hk, fun tk htk => ?_⟩
  have hnot : ∀ n : BNode, prev.next + 1 ≤ n.id → n ∉ b.inputs := by
    intro n hn hmem
    rw [hin, List.mem_singleton] at hmem
    subst hmem
    exact Nat.not_succ_le_self _ hn
  have hraw : BDen b ⟨prev.next + 1, "$mapping"⟩ (.node groupMappingK [tk]) :=
    .unary (hnot _ (by simp)) hmap (by simp [groupMappingK]) htk
  have hm : BDen b ⟨prev.next + 2, "$mapping"⟩ (.node (.cache 0) [.node groupMappingK [tk]]) :=
    .unary (hnot _ (by simp)) hcache (by simp) hraw
  have hid : BDen b ⟨prev.next, "id"⟩ (.inp "id") := BDen.input (b := b) (n := ⟨prev.next, "id"⟩) (by rw [hin]; simp)
  refine ⟨fun f hf h1 h2 => ?_, ?_⟩
  · obtain ⟨o, ho, hname, hge, he⟩ := hfields f hf h1 h2
    exact ⟨o, ho, hname, .edge (ts := [_, _]) _ (hnot o (by omega)) he rfl (by simp [groupEdgeK]) rfl (by simpa using ⟨hid, hm⟩)⟩
  · obtain ⟨o, ho, hname, hge, he⟩ := hids
    exact ⟨o, ho, hname, .unary (hnot o (by omega)) he (by simp [sortedIdsK]) hm⟩

/-- **Node level: `GroupBy` over a well-formed container builds a well-formed container** (ids below the counter, one incoming edge per node, inputs
are leaves, names of inputs / of outputs pairwise different, nothing virtual among them, persistent names are outputs): so everything proved for
well-formed containers (gluing, `term_sound`, the link to the stack machine) applies to pipelines that continue after a `GroupBy`. -/
theorem node_groupby_wf {prev b : Bag} (hw : prev.WF) (h : groupByBag prev = .ok b) : b.WF := by
  obtain ⟨i, keys, _, hk, _, h⟩ := groupByBag_ok h
  -- the new nodes are numbered from `prev.next` on: `id`, the two mapping nodes, one output per field, `ids`
  have hprev : ∀ m ∈ prev.nodes3, m.id < prev.next + 4 + (groupFields prev).length := fun m hm =>
    Nat.lt_of_lt_of_le (hw.ids m hm) (by omega)
  have hkeys := hprev keys (nodes3_out (byName_some hk).1)
  have hj : ∀ j ∈ (List.range (groupFields prev).length).zip (groupFields prev), j.1 < (groupFields prev).length :=
    fun j hj => List.mem_range.1 (List.of_mem_zip hj).1
  refine mkBag_wf h (ids_below ?_ ?_ ?_) ?_
  · simp only [groupByRaw, List.forall_mem_singleton]
    omega
  · simp only [groupByRaw, List.forall_mem_append, List.forall_mem_cons, List.forall_mem_map, List.not_mem_nil, false_imp_iff,
      implies_true, and_true]
    exact ⟨⟨by omega, fun j hjm => by have := hj j hjm; omega⟩, by omega⟩
  · simp only [groupByRaw, List.forall_mem_append, List.forall_mem_cons, List.forall_mem_map, List.not_mem_nil, false_imp_iff,
      implies_true, and_true]
    refine ⟨⟨⟨fun e he => ⟨hprev _ (nodes3_eout he), fun i hi => hprev _ (nodes3_ein he hi)⟩, ?_⟩, fun j hjm => ?_⟩, ?_⟩
    · omega
    · have := hj j hjm; omega
    · omega
  · intro x hx
    obtain ⟨o, ho, rfl⟩ := mem_names.1 (hw.persOut x hx)
    refine .inl (mem_names.2 ?_)
    by_cases h1 : o.name = "ids"
    · exact ⟨⟨_, "ids"⟩, List.mem_append_right _ (List.mem_singleton.2 rfl), h1.symm⟩
    by_cases h2 : o.name = "id"
    · exact ⟨⟨_, "id"⟩, List.mem_append_left _ (List.mem_cons_self ..), h2.symm⟩
    obtain ⟨j, hj⟩ := exists_zip_right List.length_range (mem_groupFields.2 ⟨ho, h1, h2⟩)
    exact ⟨⟨prev.next + 3 + j, o.name⟩, List.mem_append_left _ (List.mem_cons_of_mem _ (List.mem_map.2 ⟨_, hj, rfl⟩)), rfl⟩

/-- a dataset as a container: input `id`, outputs `ids` (a constant) and `x` -/
def exDataset : Bag :=
  { inputs := [⟨0, "id"⟩], outputs := [⟨1, "ids"⟩, ⟨2, "x"⟩],
    edges := [{ edge := .constant (.str "the ids"), ins := [], out := ⟨1, "ids"⟩ }, { edge := .function "D.x" [] [], ins := [⟨0, "id"⟩], out := ⟨2, "x"⟩ }],
    virt := .fin [], persistent := ["ids"], optional := [], ctx := .no, next := 3 }

/-- non-vacuity (a test): `GroupBy` over that dataset builds a container: outputs `id`, `x`, `ids`; one input -/
example :
    (match groupByBag exDataset with
     | .ok b => b.outputs.map (·.name) == ["id", "x", "ids"] && b.inputs.length == 1 && b.edges.length == 6
     | .error _ => false) = true := by
  decide +kernel

end CM.C17
