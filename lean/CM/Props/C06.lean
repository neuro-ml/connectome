/-
  C06 — Static graph hashes of dataset-wide layers identify the function they key.
  Per-edge injectivity of `_hash_graph` (CM.Model.Graph `EdgeK.hashGraph`): the static hash of an edge determines
  the function symbol, the keyword names, the routing table of a Merge switch, the constant, and the static hashes
  of the (non-Silent) inputs.

  Over whole graphs: `evalG x h` evaluates a static hash `h` on the entry id `x` (placeholder ↦ `x`, function
  applications, tuples, the routing of `SwitchEdge` through the table written into the hash, the two Join markers).
  `static_hash_determines_value`: on a plain graph (no Silent arguments, no CheckIds, no impure edge — those have no
  static hash at all) whose inputs are bound to `x`, wherever a node has a value it is `evalG x` of its static hash.
  Hence `equal_static_hash_equal_function_partial`: two sub-pipelines with equal static hashes return the same value for
  every id on which both return a value — what Filter / GroupBy / Split / Join key by the static hash is a function
  of the hash.  (Partial: ids on which one of the two raises are not covered by the theorem; the routing table,
  whose keys decide that for Merge, is in the hash by `switch_routing_in_hash`.)
-/
import CM.Proofs.Basics
import CM.Proofs.StaticHash
import CM.Proofs.DecodeG
import CM.Proofs.Check
namespace CM.C06
open CM

/-- **A static hash determines the value at every id** (where there is one). -/
theorem static_hash_determines_value (g : Graph) (d : DenCfg) (x : Val) (pl : PlainG g d x) (n : Nat) (h : NHash) (v : Val)
    (hh : hg g n = .ok h) (hv : (den g d n).v = .ok v) : evalG x h = some v :=
  static_value g d x pl n h v hh hv

/-- **Equal static graph hashes, equal functions of the entry id**: two plain sub-pipelines with the same static hash
return the same value for every input on which both return a value. -/
theorem equal_static_hash_equal_function_partial (g g' : Graph) (h : NHash) (h1 : g.hashGraph = .ok h) (h2 : g'.hashGraph = .ok h)
    (x : Val) (d d' : DenCfg) (pl : PlainG g d x) (pl' : PlainG g' d' x) (v v' : Val)
    (hv : (den g d g.output).v = .ok v) (hv' : (den g' d' g'.output).v = .ok v') : v = v' := by
  rw [hashGraph_eq_hg] at h1 h2
  obtain ⟨a, ha, rfl⟩ := map_eq_ok h1
  obtain ⟨b, hb, e⟩ := map_eq_ok h2
  cases e
  have e1 := static_value g d x pl g.output a v ha hv
  rw [static_value g' d' x pl' g'.output a v' hb hv'] at e1
  cases e1; rfl

/-- a function edge: the function, the keyword names and the (silenced) input hashes are all in the hash -/
theorem function_hash_inj (f g : String) (k l : List String) (s t : List Nat) (hs ht : List NHash)
    (h : (EdgeK.function f k s).hashGraph hs = (EdgeK.function g l t).hashGraph ht) :
    f = g ∧ k = l ∧ silence s hs = silence t ht := by
  simp only [EdgeK.hashGraph, Except.ok.injEq, NHash.apply.injEq] at h
  exact ⟨h.1, h.2.2, h.2.1⟩

/-- **Merge routing is part of the static hash** (the repair of F1): two switches with different routing tables have
different static hashes, whatever their branches hash to. -/
theorem switch_routing_in_hash (t₁ t₂ : List (Val × Nat)) (hs₁ hs₂ : List NHash)
    (h : (EdgeK.switch t₁).hashGraph hs₁ = (EdgeK.switch t₂).hashGraph hs₂) :
    switchTableVal t₁ = switchTableVal t₂ ∧ hs₁ = hs₂ := by
  simp only [EdgeK.hashGraph, Except.ok.injEq, NHash.custom.injEq, List.cons.injEq, NHash.leaf.injEq, true_and] at h
  exact h

/-- the routing table value determines the table (ids and the dataset each is routed to) -/
theorem switch_table_inj : ∀ (t₁ t₂ : List (Val × Nat)), switchTableVal t₁ = switchTableVal t₂ → t₁ = t₂ := by
  intro t₁ t₂ h
  -- the entries are written injectively, and `List.map` of an injective function is injective
  refine (List.map_inj_right fun a b hab => ?_).mp (Val.tup.inj h)
  simp only [Val.tup.injEq, List.cons.injEq, Val.int.injEq, Int.natCast_inj, and_true] at hab
  exact Prod.ext hab.1 hab.2

/-- constants, products and the marker edges of Join -/
theorem constant_hash_inj (v w : Val) (hs ht : List NHash)
    (h : (EdgeK.constant v).hashGraph hs = (EdgeK.constant w).hashGraph ht) : v = w := by
  simp only [EdgeK.hashGraph, Except.ok.injEq, NHash.leaf.injEq] at h
  exact h

theorem switch_missing_side_in_hash (i j : Nat) (hs ht : List NHash)
    (h : (EdgeK.switchMissing i).hashGraph hs = (EdgeK.switchMissing j).hashGraph ht) : i = j ∧ hs = ht := by
  simp only [EdgeK.hashGraph, Except.ok.injEq, NHash.custom.injEq, List.cons.injEq, NHash.leaf.injEq, Val.int.injEq,
    Int.natCast_inj, true_and] at h
  exact h

/-- edges of different kinds never share a static hash when their markers differ -/
theorem switch_vs_branch (t : List (Val × Nat)) (hs ht : List NHash) :
    (EdgeK.switch t).hashGraph hs ≠ EdgeK.switchBranch.hashGraph ht := by
  simp [EdgeK.hashGraph]

/-- an impure edge has no static hash at all -/
theorem impure_raises (inner : EdgeK) (hs : List NHash) : (EdgeK.impure inner).hashGraph hs = .error .hashError := by
  simp [EdgeK.hashGraph]

/-- non-vacuity / the witness of F1 on the repaired model: same branches, other routing, other hash -/
example : (EdgeK.switch [(.str "1", 0), (.str "2", 0), (.str "3", 1)]).hashGraph [placeholder, placeholder, placeholder] ≠
    (EdgeK.switch [(.str "1", 0), (.str "2", 1), (.str "3", 1)]).hashGraph [placeholder, placeholder, placeholder] := by
  intro h
  have := (switch_routing_in_hash _ _ _ _ h).1
  have := switch_table_inj _ _ this
  simp at this

/-! ### non-vacuity of the global theorem: `Merge(A, B) >> p(id)` with two routings -/

def mergeGraph (t : List (Val × Nat)) : Graph :=
  { nodes := [⟨"id", none, []⟩,
              ⟨"a", some (.function "fa" [] []), [0]⟩, ⟨"b", some (.function "fb" [] []), [0]⟩,
              ⟨"m", some (.switch t), [0, 1, 2]⟩, ⟨"p", some (.function "p" [] []), [3]⟩],
    inputs := [0], output := 4 }

def cfgOf (x : Val) : DenCfg := { env := fun s => if s = "id" then some x else none }

def routeA : List (Val × Nat) := [(.str "1", 0), (.str "2", 0), (.str "3", 1)]
def routeB : List (Val × Nat) := [(.str "1", 0), (.str "2", 1), (.str "3", 1)]

example : PlainG (mergeGraph routeA) (cfgOf (.str "2")) (.str "2") := plainGB_sound _ _ _ (by decide +kernel)

/-- the hash evaluates to the routed branch: id "2" goes to `fa` under one routing and to `fb` under the other -/
example : ((mergeGraph routeA).hashGraph.toOption.bind (evalG (.str "2")) == some (.app "p" [.app "fa" [.str "2"] [] []] [] [])) = true ∧
    ((mergeGraph routeB).hashGraph.toOption.bind (evalG (.str "2")) == some (.app "p" [.app "fb" [.str "2"] [] []] [] [])) = true := by
  decide +kernel

end CM.C06
