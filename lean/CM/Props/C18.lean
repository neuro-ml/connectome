/-
  C18 — Optional fields vanish quietly; required ones fail loudly and by name.
  Property theorems about CM.Model.Stack (tied to /repo by the S-BAG / S-OPT correspondence) and, at the node level,
  about CM.Model.Bag: `GraphCompiler._validate_optionals` / `find_dependencies` (tied to /repo by S-NODE).
-/
import CM.Proofs.StackLemmas
import CM.Proofs.BagStruct
import CM.Proofs.BagDeps
import CM.Proofs.DetectOpt
import CM.Proofs.BagTerm
namespace CM.C18
open CM

/-- The pipeline is unusable (`DependencyError`) exactly when some exposed field lacks an input and is not
quietly droppable: it is not optional, or one of the inputs it lacks is not an optional node of the layer
that asks for it. -/
theorem dependency_error_iff (s : Sig) :
    s.dependencyError = true ↔
      ∃ n ms o, (n, Entry.broken ms, o) ∈ s.out ∧
        (o = false ∨ ∃ m ∈ ms, ((s.leafOpt.find? fun p => p.1 == m).map (·.2)).getD false = false) := by
  simp only [Sig.dependencyError, List.any_eq_true, not_quiet_iff]
  constructor
  · rintro ⟨⟨n, e, o⟩, hmem, ms, rfl, h⟩
    exact ⟨n, ms, o, hmem, h⟩
  · rintro ⟨n, ms, o, hmem, h⟩
    exact ⟨(n, .broken ms, o), hmem, ms, rfl, h⟩

/-- a field left out quietly is not listed by `dir`, and asking for it raises `FieldError` -/
theorem left_out_field_error (s : Sig) (n : String) (ms : List (Nat × String)) (o : Bool)
    (h : s.get n = some (.broken ms, o)) : s.field n = .fieldError := by
  simp [Sig.field, h]

/-- optional dependants follow: a function one of whose arguments lacks inputs lacks (at least) the same inputs -/
theorem broken_propagates (f : Option String) (es : List Entry) (ms : List (Nat × String)) (m : Nat × String)
    (he : Entry.broken ms ∈ es) (hm : m ∈ ms) : ∃ ms', combine f es = .broken ms' ∧ m ∈ ms' := by
  have hmem : m ∈ es.flatMap Entry.missing := List.mem_flatMap.2 ⟨_, he, hm⟩
  have hne : (es.flatMap Entry.missing).isEmpty = false := List.isEmpty_eq_false_iff_exists_mem.2 ⟨m, hmem⟩
  exact ⟨(es.flatMap Entry.missing).eraseDups, by simp [combine, hne], List.mem_eraseDups.mpr hmem⟩

/-- a cache layer over all names marks every field it passes on as optional and changes nothing else -/
theorem cache_layers_mark_optional (s s' : Sig) (l : Layer) (hk : l.kind = .cache) (hn : l.cacheNames = none)
    (h : s.step l = .ok s') : s'.out = s.out.map fun (n, e, _) => (n, e, true) := by
  simp [step_cache hk h, hn]

/-- non-vacuity: `c(a)` is optional and `a` is missing: dropped quietly; with `c` required: DependencyError -/
example :
    let top (opt : List String) : Layer :=
      { index := 1, kind := .transform, defs := [("c", .fn "h" ["a"]), ("d", .fn "k" ["b"])], params := [],
        opt := opt, persistent := [], inherit := .fin [], inheritIsList := true, cacheNames := none }
    let src : Layer := { index := 0, kind := .transform, defs := [("b", .fn "g" ["x"])], params := [],
                         opt := [], persistent := [], inherit := .fin [], inheritIsList := true, cacheNames := none }
    ((match sigOf [src, top ["c"]] with | .ok s => !s.dependencyError && (s.get "d").isSome | .error _ => false) &&
     (match sigOf [src, top []] with | .ok s => s.dependencyError | .error _ => false)) = true := by decide +kernel

/-! ## Node level: `GraphCompiler` (`find_dependencies`, `_validate_optionals`, `get_node`) -/


/-- **Node level, which fields survive.**  When `GraphCompiler` accepts a bag, the available outputs are exactly the
outputs all of whose leaves are inputs of the bag (no unreachable input), and every output that was left out is optional
and lacks only optional nodes. -/
theorem node_validate_ok (b : Bag) (hac : acyclicB b.edges = true) (avail : List BNode) (h : b.validate = .ok avail) :
    (∀ o, o ∈ avail ↔ o ∈ b.outputs ∧ ∀ d, ¬ Unreach b o d) ∧
    (∀ o ∈ b.outputs, o ∉ avail → Quiet b o ∧ ∃ d, Unreach b o d) := by
  obtain ⟨_, _, hmi, hv⟩ := validate_ok h
  exact validateOutputs_ok b (multipleIncoming_false hmi) hac hv

/-- **Node level, when the pipeline is unusable.**  On a structurally sound bag `GraphCompiler` raises `DependencyError`
exactly when some output has an unreachable input and is not quietly droppable: it is not optional, or one of the nodes it
lacks is not optional. -/
theorem node_dependency_error_iff (b : Bag) (hac : acyclicB b.edges = true)
    (hd : hasDupStr (names b.inputs) = false ∧ hasDupStr (names b.outputs) = false)
    (hmi : multipleIncoming b.edges = false)
    (hk : (b.inputs ++ b.outputs).any (fun n => !(edgeNodes b.edges).contains n) = false) :
    b.validate = .error .dependency ↔ ∃ o ∈ b.outputs, (∃ d, Unreach b o d) ∧ ¬ Quiet b o := by
  have hs := multipleIncoming_false hmi
  rw [← validateOutputs_dependency b hs hac b.outputs]
  unfold Bag.validate
  rw [hk]
  simp [hd.1, hd.2, hmi]

/-- a field that was left out is reported as discarded (`FieldError`), never answered -/
theorem node_left_out_field_error (b : Bag) (avail : List BNode) (o : BNode) (ho : o ∈ b.outputs)
    (hsub : ∀ n ∈ avail, n ∈ b.outputs) (hnd : hasDupStr (names b.outputs) = false)
    (hv : b.virt.mem o.name = false) (hna : o ∉ avail) : b.getNode avail o.name = .discarded := by
  have hnone : byName avail o.name = none := by
    cases h : byName avail o.name with
    | none => rfl
    | some n =>
      obtain ⟨hn, hname⟩ := byName_some h
      cases names_inj_of_nodup (hasDupStr_eq_false.1 hnd) n (hsub n hn) o ho hname
      exact absurd hn hna
  simp [Bag.getNode, hnone, hv, mem_names.2 ⟨o, ho, rfl⟩]

/-- leaving a field out changes no other field: an available output is resolved to its own node -/
theorem node_available_field (b : Bag) (avail : List BNode) (o : BNode) (ho : o ∈ avail)
    (hsub : ∀ n ∈ avail, n ∈ b.outputs) (hnd : hasDupStr (names b.outputs) = false) :
    b.getNode avail o.name = .node o := by
  have hinj := names_inj_of_nodup (hasDupStr_eq_false.1 hnd)
  rw [Bag.getNode, byName_of_mem (fun n₁ h₁ n₂ h₂ => hinj n₁ (hsub n₁ h₁) n₂ (hsub n₂ h₂)) ho]

/-- **The tie to what the field computes**: for an output with an incoming edge, in a bag with single incoming edges whose
inputs are leaves, the nodes `GraphCompiler` reports as unreachable inputs are exactly the `missing` leaves of the term
the output denotes (`BDen`, the semantics the gluing theorem of C02 is about). -/
theorem node_unreachable_are_missing (b : Bag) (hs : SingleIncoming b.edges)
    (hleaf : ∀ n ∈ b.inputs, ∀ e ∈ b.edges, e.out ≠ n) (o : BNode) (ho : ∃ e ∈ b.edges, e.out = o) (t : BTerm)
    (hden : BDen b o t) (x : String) : x ∈ t.missingNames ↔ ∃ d, d.name = x ∧ Unreach b o d := by
  rw [hden.missing_iff hs hleaf]
  exact exists_congr fun d => and_congr_right fun _ => (unreach_iff_missAt ho d).symm

/-- hence: an output survives validation exactly when its term mentions no missing input -/
theorem node_available_iff_term_complete (b : Bag) (hac : acyclicB b.edges = true) (avail : List BNode)
    (h : b.validate = .ok avail) (hleaf : ∀ n ∈ b.inputs, ∀ e ∈ b.edges, e.out ≠ n)
    (o : BNode) (ho : o ∈ b.outputs) (hoe : ∃ e ∈ b.edges, e.out = o) (t : BTerm) (hden : BDen b o t) :
    o ∈ avail ↔ t.missingNames = [] := by
  obtain ⟨_, _, hmi, _⟩ := validate_ok h
  have key := node_unreachable_are_missing b (multipleIncoming_false hmi) hleaf o hoe t hden
  rw [(node_validate_ok b hac avail h).1 o]
  constructor
  · rintro ⟨_, hno⟩
    refine List.eq_nil_iff_forall_not_mem.2 fun x hx => ?_
    obtain ⟨d, _, hd⟩ := (key x).1 hx
    exact hno d hd
  · intro hnil
    exact ⟨ho, fun d hd => by simpa [hnil] using (key d.name).2 ⟨d, rfl, hd⟩⟩

/-- `a = f(x)`, `c = h(m)` with `m` not an input; the parameter is the list of optional nodes -/
def exBag (optional : List BNode) : Bag :=
  let x : BNode := ⟨0, "x"⟩; let a : BNode := ⟨1, "a"⟩; let m : BNode := ⟨2, "m"⟩; let c : BNode := ⟨3, "c"⟩
  { inputs := [x], outputs := [a, c],
    edges := [{ edge := .function "f" [] [], ins := [x], out := a }, { edge := .function "h" [] [], ins := [m], out := c }],
    virt := .empty, persistent := [], optional := optional, next := 4 }

/-- non-vacuity (a test, not a theorem): with `c` and `m` optional the compiler keeps `a` and drops `c`; with `c` required, or `m`
required, it raises `DependencyError`. -/
example :
    (match (exBag [⟨3, "c"⟩, ⟨2, "m"⟩]).validate with | .ok av => av == [⟨1, "a"⟩] | .error _ => false) = true ∧
    (match (exBag [⟨2, "m"⟩]).validate with | .error .dependency => true | _ => false) = true ∧
    (match (exBag [⟨3, "c"⟩]).validate with | .error .dependency => true | _ => false) = true ∧
    acyclicB (exBag []).edges = true ∧
    ((exBag []).term 5 ⟨3, "c"⟩).map BTerm.missingNames = some ["m"] := by
  refine ⟨by decide +kernel, by decide +kernel, by decide +kernel, by decide +kernel, by decide +kernel⟩

/-! ## Node level: which nodes of a layer are optional (`detect_optionals`, containers/reversible.py) -/

/-- **What `detect_optionals` marks**, for every container with single incoming edges and no cycle: the outputs carrying an
`@optional` name; the inputs that have dependants among the visited nodes, all of which are such optional outputs; the backward
inputs and outputs.  This is the per-layer half of "every upstream input it cannot reach is needed only by optional fields of
the layer that asks for it": the other half is `node_validate_ok`. -/
theorem node_detect_optionals (optNames : List String) (inputs outputs backIn backOut : List BNode) (es : List BEdge)
    (opt : List BNode) (hs : SingleIncoming es) (hac : acyclicB es = true)
    (h : detectOptionals optNames inputs outputs backIn backOut es = some opt) (n : BNode) :
    n ∈ opt ↔ (∃ x ∈ optNames, byName outputs x = some n) ∨
      (n ∈ inputs ∧ (∃ u, UserOf es outputs u n) ∧ ∀ u, UserOf es outputs u n → ∃ x ∈ optNames, byName outputs x = some u) ∨
      n ∈ backIn ∨ n ∈ backOut :=
  detectOptionals_spec optNames inputs outputs backIn backOut es opt hs hac h n

/-- an input with a dependant that is not an optional output - a private parameter, a required field, the pass-through of an
inherited name - is required: if it cannot be reached the pipeline fails loudly -/
theorem node_required_user_blocks (optNames : List String) (inputs outputs backIn backOut : List BNode) (es : List BEdge)
    (opt : List BNode) (hs : SingleIncoming es) (hac : acyclicB es = true)
    (h : detectOptionals optNames inputs outputs backIn backOut es = some opt) (i u : BNode)
    (hu : UserOf es outputs u i) (hno : ∀ x ∈ optNames, byName outputs x ≠ some u)
    (hi : ∀ x ∈ optNames, byName outputs x ≠ some i) (hbi : i ∉ backIn) (hbo : i ∉ backOut) : i ∉ opt := by
  intro hm
  rcases (detectOptionals_spec optNames inputs outputs backIn backOut es opt hs hac h i).1 hm with
    ⟨x, hx, hb⟩ | ⟨_, _, hall⟩ | hb | hb
  · exact hi x hx hb
  · obtain ⟨x, hx, hb⟩ := hall u hu
    exact hno x hx hb
  · exact hbi hb
  · exact hbo hb

/-- non-vacuity (a test): `x(a)` optional and `y(b, _p)`, `_p(a)` required: `a` is used by the parameter, `b` by the required
field: only the output `x` is optional; with `_p` reading nothing and `y` optional as well, `a` and `b` become optional -/
example :
    let a : BNode := ⟨0, "a"⟩; let b : BNode := ⟨1, "b"⟩; let p : BNode := ⟨2, "_p"⟩; let x : BNode := ⟨3, "x"⟩; let y : BNode := ⟨4, "y"⟩
    let es (pa : List BNode) : List BEdge := [{ edge := .function "p" [] [], ins := pa, out := p },
      { edge := .function "x" [] [], ins := [a], out := x }, { edge := .function "y" [] [], ins := [b, p], out := y }]
    (detectOptionals ["x"] [a, b] [x, y] [] [] (es [a])).map (·.map (·.name)) = some ["x"] ∧
    (detectOptionals ["x", "y"] [a, b] [x, y] [] [] (es [])).map (·.map (·.name)) = some ["x", "y", "a", "b"] := by
  decide +kernel

end CM.C18
