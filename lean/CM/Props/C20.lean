/-
  C20 — Building, compiling and calling a pipeline cost time polynomial in its size.
  Step-count theorems about CM.Model.Cost; the counters of the real functions are compared with them by S-COST.
-/
import CM.Model.Cost
namespace CM.C20
open CM

theorem parentWeight_cons (g : Graph) (n : Nat) (vis : List Nat) :
    parentWeight g (n :: vis) = (g.parents n).length + parentWeight g vis := rfl

/-- Visiting the parents `ps` one after the other with a visitor `f` that is linear and keeps the visited list free of
duplicates: so is the whole loop, which pays one call per parent. -/
theorem foldVisit_spec (g : Graph) (f : Nat → List Nat → Nat × List Nat)
    (hf : ∀ n vis, (f n vis).1 + parentWeight g vis ≤ 1 + parentWeight g (f n vis).2 ∧ (vis.Nodup → (f n vis).2.Nodup))
    (ps : List Nat) (c : Nat) (v : List Nat) :
    let r := ps.foldl (fun (acc : Nat × List Nat) p => (acc.1 + (f p acc.2).1, (f p acc.2).2)) (c, v)
    r.1 + parentWeight g v ≤ c + ps.length + parentWeight g r.2 ∧ (v.Nodup → r.2.Nodup) := by
  induction ps generalizing c v with
  | nil => exact ⟨Nat.le_refl _, id⟩
  | cons p ps ih =>
    obtain ⟨h1, h2⟩ := hf p v
    obtain ⟨i1, i2⟩ := ih (c + (f p v).1) (f p v).2
    exact ⟨by simp only [List.foldl_cons, List.length_cons] at i1 ⊢; omega, fun h => i2 (h2 h)⟩

/-- the invariant of the traversal with a visited set: every call beyond the first is paid for by a parent occurrence
of a newly visited node, and no node is entered into the visited list twice -/
theorem visitOnce_spec (g : Graph) (fuel n : Nat) (vis : List Nat) :
    (visitOnce g fuel n vis).1 + parentWeight g vis ≤ 1 + parentWeight g (visitOnce g fuel n vis).2 ∧
    (vis.Nodup → (visitOnce g fuel n vis).2.Nodup) := by
  induction fuel generalizing n vis with
  | zero => exact ⟨by simp [visitOnce], id⟩
  | succ fuel ih =>
    simp only [visitOnce]
    split
    · exact ⟨Nat.le_refl _, id⟩
    · next hc =>
      have hcons : vis.Nodup → (n :: vis).Nodup := fun h => List.nodup_cons.mpr ⟨by simpa using hc, h⟩
      split
      · exact ⟨by rw [parentWeight_cons]; omega, hcons⟩
      · obtain ⟨h1, h2⟩ := foldVisit_spec g (visitOnce g fuel) ih (g.parents n) 1 (n :: vis)
        rw [parentWeight_cons] at h1
        exact ⟨by omega, fun h => h2 (hcons h)⟩

/-- **Linear.**  The traversal with a visited set makes at most one call per start plus one per parent occurrence of
the nodes it newly visits: `calls + weight(visited before) ≤ 1 + weight(visited after)`. -/
theorem visit_once_linear (g : Graph) : ∀ fuel n vis,
    (visitOnce g fuel n vis).1 + parentWeight g vis ≤ 1 + parentWeight g (visitOnce g fuel n vis).2 :=
  fun fuel n vis => (visitOnce_spec g fuel n vis).1

/-- started with nothing visited: at most `1 + Σ_{visited m} |parents m|` calls, every visited node counted once -/
theorem visit_once_bound (g : Graph) (fuel n : Nat) :
    (visitOnce g fuel n []).1 ≤ 1 + parentWeight g (visitOnce g fuel n []).2 :=
  visit_once_linear g fuel n []

/-- no node is visited (and charged) twice -/
theorem visit_once_nodup (g : Graph) : ∀ fuel n vis, vis.Nodup → (visitOnce g fuel n vis).2.Nodup :=
  fun fuel n vis => (visitOnce_spec g fuel n vis).2

/-- the Crop pattern: `n = image(a, b)` with `b = _box(a)` -/
structure Diamond (g : Graph) (a n : Nat) : Prop where
  box : ∃ b, g.parents n = [a, b] ∧ g.parents b = [a] ∧ g.stops b = false
  top : g.stops n = false

theorem visitPaths_succ (g : Graph) (fuel n : Nat) (h : g.stops n = false) :
    visitPaths g (fuel + 1) n = 1 + ((g.parents n).map (visitPaths g fuel)).sum := by
  simp [visitPaths, h]

theorem visitPaths_mono (g : Graph) (fuel a : Nat) : visitPaths g fuel a ≤ visitPaths g (fuel + 1) a := by
  induction fuel generalizing a with
  | zero => exact Nat.zero_le _
  | succ f ih =>
    rw [visitPaths, visitPaths]
    split
    · exact Nat.le_refl _
    · apply Nat.add_le_add_left
      induction g.parents a with
      | nil => exact Nat.le_refl _
      | cons p ps ihp => exact Nat.add_le_add (ih p) ihp

/-- one diamond layer doubles the number of calls of the path-enumerating traversal -/
theorem diamond_doubles (g : Graph) (a n : Nat) (d : Diamond g a n) (fuel : Nat) :
    visitPaths g (fuel + 2) n = 2 * visitPaths g fuel a + 2 + (visitPaths g (fuel + 1) a - visitPaths g fuel a) := by
  obtain ⟨⟨b, hpn, hpb, hsb⟩, hsn⟩ := d
  have mono := visitPaths_mono g fuel a
  -- `n` calls `a` and `b`, and `b` calls `a` with one unit of fuel less
  rw [visitPaths_succ g (fuel + 1) n hsn, hpn, List.map_cons, List.map_cons, List.map_nil,
    visitPaths_succ g fuel b hsb, hpb]
  simp only [List.map_cons, List.map_nil, List.sum_cons, List.sum_nil]
  omega

/-- a chain `a, c₁, …, c_k` of stacked diamond layers -/
def DiamondChain (g : Graph) : Nat → List Nat → Prop
  | _, [] => True
  | a, n :: rest => Diamond g a n ∧ DiamondChain g n rest

def lastOf (a : Nat) : List Nat → Nat
  | [] => a
  | n :: rest => lastOf n rest

/-- hence `k` stacked diamonds multiply the cost of the path-enumerating traversal by at least `2^k` (finding F4a on
the pinned tree; the `fix:` commit replaced it by the visited-set traversal bounded above) -/
theorem pinned_exponential (g : Graph) : ∀ (chain : List Nat) (a : Nat) (fuel : Nat),
    DiamondChain g a chain →
    2 ^ chain.length * visitPaths g fuel a ≤ visitPaths g (fuel + 2 * chain.length) (lastOf a chain) := by
  intro chain
  induction chain with
  | nil => intro a fuel _; simp [lastOf]
  | cons n rest ih =>
    intro a fuel ⟨hd, hrest⟩
    have step := diamond_doubles g a n hd fuel
    have hfuel : fuel + 2 * (rest.length + 1) = fuel + 2 + 2 * rest.length := by omega
    simp only [lastOf, List.length_cons, Nat.pow_succ, hfuel]
    calc 2 ^ rest.length * 2 * visitPaths g fuel a
        = 2 ^ rest.length * (2 * visitPaths g fuel a) := by rw [Nat.mul_assoc]
      _ ≤ 2 ^ rest.length * visitPaths g (fuel + 2) n := Nat.mul_le_mul_left _ (by omega)
      _ ≤ _ := ih n (fuel + 2) hrest

/-- three stacked Crop layers over one input -/
def crop3 : Graph :=
  { nodes := [⟨"image", none, []⟩,
              ⟨"_box", some (.function "box" [] []), [0]⟩, ⟨"image", some (.function "crop" [] []), [0, 1]⟩,
              ⟨"_box", some (.function "box" [] []), [2]⟩, ⟨"image", some (.function "crop" [] []), [2, 3]⟩,
              ⟨"_box", some (.function "box" [] []), [4]⟩, ⟨"image", some (.function "crop" [] []), [4, 5]⟩],
    inputs := [0], output := 6 }

/-- non-vacuity: 1, 4, 10, 22 calls of the pinned traversal on the successive `image` nodes of `crop3`, 1 + E = 10 calls of the
repaired one; the three layers form a `DiamondChain` -/
example : visitPaths crop3 10 6 = 22 ∧ (visitOnce crop3 10 6 []).1 = 10 ∧ DiamondChain crop3 0 [2, 4, 6] := by
  refine ⟨by decide, by decide, ?_⟩
  refine ⟨⟨⟨1, rfl, rfl, by decide⟩, by decide⟩, ⟨⟨3, rfl, rfl, by decide⟩, by decide⟩, ⟨⟨5, rfl, rfl, by decide⟩, by decide⟩, trivial⟩

end CM.C20
