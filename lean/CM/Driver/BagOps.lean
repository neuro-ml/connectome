/-
  CM.Driver.BagOps — line-protocol operation `bag`: the node-level container model on bags taken from the real code.
  Edges other than `IdentityEdge` are opaque tags here (`fn` with the tag as function name).
-/
import CM.Driver.Codec
import CM.Model.Bag
import CM.Proofs.Check
import CM.Proofs.BagDen
import CM.Proofs.BagTerm
open Lean
namespace CM

def bnodeOfJson (j : Json) : P BNode := do
  match ← jArr j with
  | [i, n] => pure { id := (← i.getNat?), name := (← n.getStr?) }
  | _ => throw "bad node"

def bnodeToJson (n : BNode) : Json := .arr #[toJson n.id, .str n.name]
def bnodesToJson (ns : List BNode) : Json := .arr (ns.map bnodeToJson).toArray
def bnodesOfJson (j : Json) : P (List BNode) := do (← jArr j).mapM bnodeOfJson

def nameSetOfJson (j : Json) : P NameSet := do
  match j.getObjVal? "fin" with
  | .ok xs => pure (.fin (← jStrs xs))
  | .error _ => pure (.cofin (← jStrs (← jField j "cofin")))

def nameSetToJson : NameSet → Json
  | .fin xs => Json.mkObj [("fin", .arr (xs.map Json.str).toArray)]
  | .cofin xs => Json.mkObj [("cofin", .arr (xs.map Json.str).toArray)]

def bedgeOfJson (j : Json) : P BEdge := do
  pure { edge := (← edgeOfJson (← jField j "e")), ins := (← bnodesOfJson (← jField j "ins")),
         out := (← bnodeOfJson (← jField j "out")) }

def bedgeToJson (e : BEdge) : Json :=
  let lab := match e.edge with
    | .identity => Json.mkObj [("k", .str "ident")]
    | .function f _ _ => Json.mkObj [("k", .str "fn"), ("f", .str f)]
    | _ => Json.mkObj [("k", .str "other")]
  Json.mkObj [("e", lab), ("ins", bnodesToJson e.ins), ("out", bnodeToJson e.out)]

partial def ctxOfJson (j : Json) : P BCtx := do
  let k ← (← jField j "k").getStr?
  match k with
  | "no" => pure .no
  | "ident" => pure .ident
  | "bag" => pure (.bag (← bnodesOfJson (← jField j "inputs")) (← bnodesOfJson (← jField j "outputs"))
               (← nameSetOfJson (← jField j "inherit")))
  | "chain" => pure (.chain (← ctxOfJson (← jField j "previous")) (← ctxOfJson (← jField j "current")))
  | _ => throw s!"bad ctx {k}"

partial def ctxToJson : BCtx → Json
  | .no => Json.mkObj [("k", .str "no")]
  | .ident => Json.mkObj [("k", .str "ident")]
  | .bag i o h => Json.mkObj [("k", .str "bag"), ("inputs", bnodesToJson i), ("outputs", bnodesToJson o),
      ("inherit", nameSetToJson h)]
  | .chain p c => Json.mkObj [("k", .str "chain"), ("previous", ctxToJson p), ("current", ctxToJson c)]

def bagOfJson (j : Json) : P Bag := do
  pure { inputs := (← bnodesOfJson (← jField j "inputs")), outputs := (← bnodesOfJson (← jField j "outputs")),
         edges := (← (← jArr (← jField j "edges")).mapM bedgeOfJson),
         virt := (← nameSetOfJson (← jField j "virt")), persistent := (← jStrs (← jField j "persistent")),
         optional := (← bnodesOfJson (← jField j "optional")), ctx := (← ctxOfJson (← jField j "ctx")),
         next := (← (← jField j "next").getNat?) }

def bagToJson (b : Bag) : Json :=
  Json.mkObj [("inputs", bnodesToJson b.inputs), ("outputs", bnodesToJson b.outputs),
    ("edges", .arr (b.edges.map bedgeToJson).toArray), ("virt", nameSetToJson b.virt),
    ("persistent", .arr (b.persistent.map Json.str).toArray), ("optional", bnodesToJson b.optional),
    ("ctx", ctxToJson b.ctx), ("next", toJson b.next)]

def bagErrToJson : BagErr → Json
  | .graph r => Json.mkObj [("err", .str "GraphError"), ("rule", .str r)]
  | .duplicates => Json.mkObj [("err", .str "AssertionError")]
  | .value => Json.mkObj [("err", .str "ValueError")]
  | .key => Json.mkObj [("err", .str "KeyError")]

def bagResToJson : Except BagErr Bag → Json
  | .ok b => Json.mkObj [("ok", bagToJson b)]
  | .error e => bagErrToJson e

def compileErrToJson : CompileErr → Json
  | .dependency => .str "DependencyError"
  | .duplicates => .str "AssertionError"
  | .graph => .str "GraphError"
  | .key => .str "KeyError"

def fieldResToJson : FieldRes → Json
  | .node n => Json.mkObj [("node", bnodeToJson n)]
  | .virtualInput (some n) => Json.mkObj [("input", bnodeToJson n)]
  | .virtualInput none => Json.mkObj [("identity", .bool true)]
  | .discarded => Json.mkObj [("err", .str "FieldError"), ("why", .str "discarded")]
  | .undefined => Json.mkObj [("err", .str "FieldError"), ("why", .str "undefined")]

def storesOfJson (st : Json) : P (List MemStore) := do
  (← jArr (jFieldD st "stores" (.arr #[]))).mapM fun s =>
    match s with
    | .null => pure ({ size := none, table := [] } : MemStore)
    | s => do pure ({ size := some (← s.getNat?), table := [] } : MemStore)

/-- compile the graph of the node `o` of `b` and run the VM model on it (the second half of a `call` step) -/
def runNode (b : Bag) (o : BNode) (st : Json) (env : String → Option Val) (stores : List MemStore) : P Json := do
  let g := b.compileGraph o
  if !g.validate then pure (Json.mkObj [("err", .str "AssertionError"), ("graph_ok", .bool g.okCB)])
  else
    let impureFns ← jStrs (jFieldD st "impure" (.arr #[]))
    let constFns ← (← jArr (jFieldD st "const_fns" (.arr #[]))).mapM fun r => do
      match ← jArr r with
      | [n, v] => pure ((← n.getStr?), (← valOfJson v))
      | _ => throw "bad const_fns"
    let w : World := { stores := stores, impureFns := impureFns, constFns := constFns }
    match g.call env w 10000000 with
    | none => throw "out of fuel"
    | some (out, _) =>
      let r : Json := match out with
        | .done (.val v) _ => Json.mkObj [("ok", valToJson v)]
        | .done _ _ => Json.mkObj [("err", .str "internal")]
        | .raised e _ => Json.mkObj [("err", errToJson e)]
        | .next _ => Json.mkObj [("err", .str "internal")]
      -- what `CM.C02.node_pipeline_value` predicts, when its hypotheses hold: the value of the node's term
      -- `node_compile_ok` predicts `g.okB` from the first two conjuncts
      let edgesWf := b.edges.all (·.edge.wf)
      let hyp := b.wfB && edgesWf && acyclicB b.edges && g.callOKB env && impureFns.isEmpty
      let dcfg : DenCfg := { env := env, callNo := 0, impureFns := impureFns, constFns := constFns }
      let pred : Json := match (if hyp then b.term 64 o else none) with
        | some t => if t.noMissingB then (match (t.den dcfg).v with | .ok v => Json.mkObj [("ok", valToJson v)] | .error e => Json.mkObj [("err", errToJson e)]) else .null
        | none => .null
      pure (Json.mkObj [("r", r), ("sig", toJson g.signature), ("graph_ok", .bool g.okCB),
        ("call_ok", .bool (g.callOKB env)), ("nodes", toJson g.nodes.length), ("pipeline_hyp", .bool hyp), ("compile_hyp", .bool (b.wfB && edgesWf)), ("okB", .bool g.okB),
        ("predicted", pred)])

/-- `{"op":"bag","steps":[...]}`; steps: `connect` (left, right), `make` (the arguments of `EdgesBag(...)`),
`loopback` (bag, fbag), `compile` (bag, names), `reverse` (ctx, outputs, next). -/
def opBag (j : Json) : P Json := do
  let steps ← jArr (← jField j "steps")
  let outs ← steps.mapM fun st => do
    let t ← (← jField st "t").getStr?
    match t with
    | "connect" =>
      let l ← bagOfJson (← jField st "left")
      let r ← bagOfJson (← jField st "right")
      let res := connectBags l r
      let extra : List (String × Json) :=
        [("wf", .arr #[.bool l.wfB, .bool r.wfB]),
         ("wf_result", .bool (match res with | .ok c => c.wfB | .error _ => true))]
      match bagResToJson res with
      | .obj kvs => pure (Json.mkObj (kvs.toList ++ extra))
      | j => pure j
    | "make" =>
      let b ← bagOfJson (← jField st "bag")
      let raw : RawBag :=
        { inputs := b.inputs, outputs := b.outputs, edges := b.edges, ctx := b.ctx, virt := b.virt,
          persistent := b.persistent, optional := b.optional, next := b.next }
      pure (bagResToJson (mkBag raw))
    | "loopback" =>
      let b ← bagOfJson (← jField st "bag")
      let f ← bagOfJson (← jField st "fbag")
      pure (bagResToJson (b.loopbackWith f))
    | "function_to_bag" =>
      let f ← (← jField st "f").getStr?
      let ins ← jStrs (← jField st "inputs")
      let outs ← jStrs (← jField st "outputs")
      let single := (jFieldD st "single" (.bool false)) == .bool true
      pure (bagResToJson (functionToBag f ins outs single))
    | "compile" =>
      let b ← bagOfJson (← jField st "bag")
      let ns ← jStrs (← jField st "names")
      match b.validate with
      | .error e => pure (Json.mkObj [("err", compileErrToJson e)])
      | .ok av =>
        pure (Json.mkObj [("fields", .arr ((names av).map Json.str).toArray),
          ("get", .arr (ns.map fun n => fieldResToJson (b.getNode av n)).toArray)])
    | "call" =>
      -- the whole way in the model: validate, get_node, compile to a graph, run the VM on it
      let b ← bagOfJson (← jField st "bag")
      let name ← (← jField st "name").getStr?
      let env ← envOfJson (jFieldD st "env" (Json.mkObj []))
      let stores ← storesOfJson st
      match b.validate with
      | .error e => pure (Json.mkObj [("err", compileErrToJson e)])
      | .ok av =>
        match b.getNode av name with
        | .node o | .virtualInput (some o) => runNode b o st env stores
        | .virtualInput none => pure (Json.mkObj [("identity", .bool true)])
        | .discarded | .undefined => pure (Json.mkObj [("err", .str "FieldError")])
    | "call_tuple" =>
      -- `_compile((n1, ..., nk))`: a product node over the requested nodes; a virtual name that is no input becomes a new input
      let b ← bagOfJson (← jField st "bag")
      let ns ← jStrs (← jField st "names")
      let env ← envOfJson (jFieldD st "env" (Json.mkObj []))
      let stores ← storesOfJson st
      match b.validate with
      | .error e => pure (Json.mkObj [("err", compileErrToJson e)])
      | .ok av =>
        match b.tupleRequest av ns with
        | .error .field => pure (Json.mkObj [("err", .str "FieldError")])
        | .error .value => pure (Json.mkObj [("err", .str "ValueError")])
        | .ok (b', p) => runNode b' p st env stores
    | _ => throw s!"unknown bag step {t}"
  pure (Json.mkObj [("outs", .arr outs.toArray)])

end CM
